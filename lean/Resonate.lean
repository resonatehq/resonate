import Resonate.Model.Types
import Resonate.Model.SqlPrims
import Resonate.Model.SqlDefs
import Resonate.Generated.Sql
import Resonate.Model.Store
import Resonate.Model.SqlSpec
import Resonate.Proofs.ListBasics
import Resonate.Proofs.Guards
import Resonate.Proofs.StoreBasics
import Resonate.Proofs.Tie
import Resonate.Properties.C16
import Resonate.Model.Api
import Resonate.Model.Co
import Resonate.Model.Coroutines
import Resonate.Model.System
import Resonate.Model.Env
import Resonate.Proofs.Lift
import Resonate.Proofs.Frame
import Resonate.Proofs.Wf
import Resonate.Proofs.PromiseInv
import Resonate.Proofs.PromIds
import Resonate.Proofs.CbInv
import Resonate.Proofs.Lin
import Resonate.Proofs.Tree
import Resonate.Proofs.TxShape
import Resonate.Proofs.Walk
import Resonate.Proofs.KernelEq
import Resonate.Proofs.WInv
import Resonate.Proofs.SysInv
import Resonate.Proofs.SysDb
import Resonate.Properties.C01
import Resonate.Properties.C05
import Resonate.Properties.C09
import Resonate.Proofs.TaskInv
import Resonate.Properties.C07
import Resonate.Generated.Status
import Resonate.Generated.Sites
import Resonate.Proofs.SitesPin
import Resonate.Properties.C15
import Resonate.Properties.C17
import Resonate.Proofs.Paging
import Resonate.Properties.C14
import Resonate.Proofs.CoBasics
import Resonate.Proofs.CoSteps
import Resonate.Properties.C04
import Resonate.Properties.C03
import Resonate.Properties.C08
import Resonate.Properties.C10
import Resonate.Model.Json
import Resonate.Proofs.JsonRoundTrip
import Resonate.Properties.C20
import Resonate.Model.Poll
import Resonate.Model.JsonScan
import Resonate.Model.Resolve
import Resonate.Proofs.PollInv
import Resonate.Proofs.ResolveLemmas
import Resonate.Properties.C18
import Resonate.Properties.C19
import Resonate.Properties.C06
import Resonate.Proofs.NoPanic
import Resonate.Proofs.KeysInv
import Resonate.Proofs.NoStoreAssert
import Resonate.Proofs.Kernel
import Resonate.Proofs.FreshIds
import Resonate.Proofs.TaskRun
import Resonate.Proofs.Converge
import Resonate.Proofs.Fair
import Resonate.Properties.C13
import Resonate.Properties.C12
import Resonate.Properties.C11
import Resonate.Properties.C02
