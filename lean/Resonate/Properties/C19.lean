/-
  Properties/C19.lean — receiver resolution is deterministic: tasks go where the routing tag says.

  Model: Model/Resolve.lean (router `TagSource` / `coerce` / stored bytes; sender `UnmarshalChain` / targets /
  `schemeToRecv` / plugin lookup), tied to the real router and sender workers by the `routesend` harness
  (sender through the build-tag `verif` hook).  `url.Parse` is a parameter (`parse`): every theorem holds for every
  parser, the harness supplies Go's.  The message body is stated in C08.message_names_task (built by the
  EnqueueTasks coroutine, tied by sysdiff) and checked field by field on the real body by `routesend`.
-/
import Resonate.Proofs.ResolveLemmas
import Resonate.Model.Poll
import Resonate.Properties.C08
namespace Resonate.C19
open Resolve JsonScan

/-! ### the router: what the routing tag says -/

/-- no tag, no routing -/
theorem no_tag_does_not_route : routeTag none = none := rfl

/-- a tag that is not JSON is kept, character for character, as a logical name -/
theorem plain_tag_is_logical_name (v : List Char) (h : valid v = false) : routeTag (some v) = some (.logical v) := by
  simp [routeTag, h]

/-- a tag that is JSON routes only as a physical receiver with a non-empty type; every other JSON value
    (numbers, strings, arrays, literals, objects without a type, with a non-string type or with an unknown
    field) does not route — it is never mistaken for a logical name -/
theorem json_tag_physical_or_unrouted (v : List Char) (h : valid v = true) :
    routeTag (some v) = none ∨ ∃ t d, routeTag (some v) = some (.physical t d) ∧ t ≠ [] := by
  simp only [routeTag, h, if_true]
  cases members v with
  | none => left; rfl
  | some ms =>
    simp only
    split
    · rename_i hc
      right
      refine ⟨(recvFields ms).type, (recvFields ms).data, rfl, ?_⟩
      simp only [Bool.and_eq_true, Bool.not_eq_true', List.isEmpty_eq_false_iff] at hc
      exact hc.2
    · left; rfl

/-! ### the sender: where the stored address resolves to -/

/-- the sender reads back exactly the logical name the router stored -/
theorem logical_name_round_trip (n : List Char) : readStored (recvBytes (.logical n)) = .logical n := by
  have h := Json.decStr_encStr n []
  rw [List.append_nil, ← skipWs_encStr] at h
  unfold readStored recvBytes
  rw [topKind_encStr]
  rw [h]

/-- a configured target of that name wins, whatever the name looks like (even if it parses as a URL) -/
theorem logical_name_resolves_to_configured_target (targets : List Target) (plugins : List String)
    (parse : String → Option Url) (n : List Char) (t : Target)
    (ht : targets.find? (·.name == String.ofList n) = some t) :
    dispatch targets plugins parse (recvBytes (.logical n)) =
      if plugins.contains t.type then .handed t.type t.data else .unknownPlugin t.type := by
  simp [dispatch, logical_name_round_trip, ht]

/-- otherwise the URL scheme decides: http / https go to the http transport with the URL as written by `u.String()` -/
theorem logical_name_by_scheme_http (targets : List Target) (plugins : List String) (parse : String → Option Url)
    (n : List Char) (u : Url) (hno : targets.find? (·.name == String.ofList n) = none)
    (hp : parse (String.ofList n) = some u) (hs : u.scheme = "http" ∨ u.scheme = "https") :
    dispatch targets plugins parse (recvBytes (.logical n)) =
      if plugins.contains "http" then .handed "http" (jsonObj [("url", u.str)]) else .unknownPlugin "http" := by
  have : schemeToRecv parse (String.ofList n) = some ("http", jsonObj [("url", u.str)]) := by
    rcases hs with hs | hs <;> simp [schemeToRecv, hp, hs]
  simp [dispatch, logical_name_round_trip, hno, this]

/-- `poll://group/id` goes to the poll transport addressed to that group and id (id omitted when empty) -/
theorem logical_name_by_scheme_poll (targets : List Target) (plugins : List String) (parse : String → Option Url)
    (n : List Char) (u : Url) (hno : targets.find? (·.name == String.ofList n) = none)
    (hp : parse (String.ofList n) = some u) (hs : u.scheme = "poll") :
    dispatch targets plugins parse (recvBytes (.logical n)) =
      let data := jsonObj ([("group", u.host)] ++ if pollId u.path != "" then [("id", pollId u.path)] else [])
      if plugins.contains "poll" then .handed "poll" data else .unknownPlugin "poll" := by
  have : schemeToRecv parse (String.ofList n) =
      some ("poll", jsonObj ([("group", u.host)] ++ if pollId u.path != "" then [("id", pollId u.path)] else [])) := by
    simp [schemeToRecv, hp, hs]
  simp [dispatch, logical_name_round_trip, hno, this]

/-- an unknown name (no target, no known scheme) is a FAILED hand-off — never a message to some transport -/
theorem unknown_name_fails (targets : List Target) (plugins : List String) (parse : String → Option Url) (n : List Char)
    (hno : targets.find? (·.name == String.ofList n) = none) (hs : schemeToRecv parse (String.ofList n) = none) :
    dispatch targets plugins parse (recvBytes (.logical n)) = .unknownReceiver := by
  simp [dispatch, logical_name_round_trip, hno, hs]

theorem handed_of_ite {plugins : List String} {ty data p d : String}
    (h : (if plugins.contains ty then Outcome.handed ty data else .unknownPlugin ty) = .handed p d) :
    plugins.contains p = true ∧ ty = p ∧ data = d := by
  by_cases hc : plugins.contains ty = true
  · rw [if_pos hc] at h; cases h; exact ⟨hc, rfl, rfl⟩
  · rw [if_neg hc] at h; cases h

/-- whatever bytes are stored: a message is handed only to a registered transport, and only with an address that
    the stored bytes determine (physical: the stored type and data; logical: the target of that name, else the scheme) -/
theorem handed_only_where_resolved (targets : List Target) (plugins : List String) (parse : String → Option Url)
    (bytes : List Char) (p d : String) (h : dispatch targets plugins parse bytes = .handed p d) :
    plugins.contains p = true ∧
    ((∃ t dd, readStored bytes = .physical t dd ∧ p = String.ofList t ∧ d = (match dd with | some raw => String.ofList raw | none => "")) ∨
     (∃ n, readStored bytes = .logical n ∧
        ((∃ t, targets.find? (·.name == String.ofList n) = some t ∧ p = t.type ∧ d = t.data) ∨
         (targets.find? (·.name == String.ofList n) = none ∧ schemeToRecv parse (String.ofList n) = some (p, d))))) := by
  unfold dispatch at h
  cases hr : readStored bytes with
  | invalid | neither => simp only [hr] at h; cases h
  | physical t dd =>
    simp only [hr] at h
    obtain ⟨hc, rfl, rfl⟩ := handed_of_ite h
    exact ⟨hc, .inl ⟨t, dd, rfl, rfl, rfl⟩⟩
  | logical n =>
    simp only [hr] at h
    cases ht : targets.find? (·.name == String.ofList n) with
    | some t =>
      simp only [ht] at h
      obtain ⟨hc, rfl, rfl⟩ := handed_of_ite h
      exact ⟨hc, .inr ⟨n, rfl, .inl ⟨t, ht, rfl, rfl⟩⟩⟩
    | none =>
      simp only [ht] at h
      cases hs : schemeToRecv parse (String.ofList n) with
      | none => simp only [hs] at h; cases h
      | some r =>
        simp only [hs] at h
        obtain ⟨hc, rfl, rfl⟩ := handed_of_ite h
        exact ⟨hc, .inr ⟨n, rfl, .inr ⟨ht, hs⟩⟩⟩

/-- a failed hand-off is retried, not lost: whatever the sender answers other than success, the task goes back to
    `init` with one more attempt (C08.handoff_outcome), to be picked up by the next EnqueueTasks cycle -/
theorem failed_handoff_is_retried (e : Int) (r : TaskRow) (o : Cpl) (hn : r.mesg.type ≠ "notify") (ho : o ≠ .sender true) :
    ∃ u : UpdateTaskCmd, Coro.enqueueOutcomeCmd e r o = .updateTask u ∧ u.state = T_INIT ∧ u.attempt = r.attempt + 1 ∧ u.id = r.id := by
  obtain ⟨u, h1, h2, -, -, -, -, -, h8⟩ := C08.handoff_outcome e r o
  exact ⟨u, h1, (h8 hn ho).1, (h8 hn ho).2, h2⟩

/-! ### the poll address the sender writes is the address the poll transport reads (link to C18) -/

/-- the poll transport reads an address written by `jsonObj` as its `group` and `id` members -/
theorem decodeData_jsonObj (m : List (String × String)) :
    Poll.decodeData (jsonObj m) = .ok (String.ofList (Poll.field "group".toList (m.map fun kv => (kv.1.toList, kv.2.toList))))
      (String.ofList (Poll.field "id".toList (m.map fun kv => (kv.1.toList, kv.2.toList)))) := by
  -- an object starts with `{`
  have hne : (jsonObj m == "null") = false := beq_false_of_ne fun h => by
    have := congrArg String.toList h
    simp [jsonObj, Json.encMap] at this
  unfold Poll.decodeData
  simp only [hne, Bool.false_eq_true, if_false]
  rw [jsonObj, String.toList_ofList, Json.decMap_encMap]

theorem poll_address_round_trip (g i : String) :
    Poll.decodeData (jsonObj [("group", g), ("id", i)]) = .ok g i ∧ Poll.decodeData (jsonObj [("group", g)]) = .ok g "" := by
  refine ⟨?_, ?_⟩
  · rw [decodeData_jsonObj]
    simp [Poll.field, Poll.asciiLower]
  · rw [decodeData_jsonObj]
    simp [Poll.field, Poll.asciiLower]

/-! ### non-vacuity (evaluated at build time by `#guard`: tests of the executable model, not theorems):
    the three classes of tag, and a resolution of each kind -/

#guard routeTag (some "poll://g/w1".toList) == some (.logical "poll://g/w1".toList)
#guard routeTag (some "{\"type\":\"http\",\"data\":{\"url\":\"http://x\"}}".toList) == some (.physical "http".toList (some "{\"url\":\"http://x\"}".toList))
#guard routeTag (some "[1]".toList) == none && routeTag (some "{\"type\":\"\"}".toList) == none && routeTag (some "{\"type\":\"poll\",\"x\":1}".toList) == none
#guard routeTag (some "null".toList) == none && routeTag (some "7".toList) == none && routeTag (some "\"s\"".toList) == none
#guard dispatch (effectiveTargets []) ["poll", "http"] (fun _ => none) (recvBytes (.logical "default".toList)) == .handed "poll" "{\"group\":\"default\"}"
#guard dispatch [] ["poll", "http"] (fun _ => some { scheme := "poll", host := "g", path := "/w1", str := "poll://g/w1" }) (recvBytes (.logical "poll://g/w1".toList)) == .handed "poll" "{\"group\":\"g\",\"id\":\"w1\"}"
#guard dispatch [] ["poll"] (fun _ => none) (recvBytes (.logical "nowhere".toList)) == .unknownReceiver
#guard dispatch [] ["poll"] (fun _ => none) "null".toList == .bothNil

end Resonate.C19
