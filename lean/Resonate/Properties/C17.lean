/-
  Properties/C17.lean — the Postgres back end decides and writes what the SQLite back end does.
  Both statement sets are regenerated from /repo on every run and proved equal to `SqlSpec.defs .pg`
  / `SqlSpec.defs .sqlite` (Proofs/Tie.lean, theorems `pg_*` and `sqlite_*`); this file proves that
  the two specifications give the same store semantics, command by command, under the documented
  dialect precondition `DialectSafe`, and that outside it they really differ (witnesses).
-/
import Resonate.Model.SqlSpec
namespace Resonate.C17
open SqlSpec

/-! ### where the dialects agree on expressions -/

def noUpper (c : Char) : Bool := asciiLower c == c

theorem likeGo_agree (p s : List Char) (hp : p.all noUpper = true) (hs : s.all noUpper = true)
    (hb : p.all (· != '\\') = true) : likeGo true false p s = likeGo false true p s := by
  induction p generalizing s with
  | nil => simp only [likeGo]
  | cons c p ihp =>
    rw [List.all_cons, Bool.and_eq_true] at hp hb
    replace ihp := fun s hs => ihp s hp.2 hs hb.2
    have h3 : c ≠ '\\' := bne_iff_ne.mp hb.1
    by_cases h1 : c = '%'
    · -- `%` may keep the pattern as it is and drop a character of the string: induction on the string
      subst h1
      induction s with
      | nil => simp only [likeGo, ihp [] hs]
      | cons d s ihs =>
        have hs2 : s.all noUpper = true := by rw [List.all_cons, Bool.and_eq_true] at hs; exact hs.2
        simp only [likeGo, ihp (d :: s) hs, ihs hs2]
    · cases s with
      | nil =>
        by_cases h2 : c = '_'
        · subst h2; simp only [likeGo]
        · simp only [likeGo]
      | cons d s =>
        rw [List.all_cons, Bool.and_eq_true] at hs
        by_cases h2 : c = '_'
        · subst h2; simp only [likeGo, ihp s hs.2]
        · -- an ordinary character (`h1 h2 h3` select the last equation of `likeGo`), which lower-casing leaves alone
          simp only [likeGo, ihp s hs.2, beq_iff_eq.mp hp.1, beq_iff_eq.mp hs.1, ite_self]

/-- without ASCII upper-case letters on either side and without `\` in the pattern, sqlite's
    case-insensitive LIKE and Postgres' case-sensitive, backslash-escaping LIKE coincide -/
theorem like_agree : ∀ (n : Nat) (p s : List Char), p.length + s.length ≤ n → p.all noUpper = true → s.all noUpper = true →
    p.all (· != '\\') = true → likeGo true false p s = likeGo false true p s :=
  fun _ p s _ => likeGo_agree p s

def StrSafe (x : String) : Prop := x.toList.all noUpper = true
def PatSafe (x : String) : Prop := x.toList.all noUpper = true ∧ x.toList.all (· != '\\') = true

theorem dLike_agree (s pat : String) (hs : StrSafe s) (hp : PatSafe pat) : dLike .pg s pat = dLike .sqlite s pat :=
  (likeGo_agree pat.toList s.toList hp.1 hs hp.2).symm

theorem starToPercent_all (q : Char → Bool) (hq : q '%' = true) (x : String) (h : x.toList.all q = true) :
    (starToPercent x).toList.all q = true := by
  rw [starToPercent, String.toList_ofList, List.all_map]
  refine List.all_eq_true.mpr fun c hc => ?_
  show q (if c = '*' then '%' else c) = true
  split
  · exact hq
  · exact List.all_eq_true.mp h c hc

theorem starToPercent_safe (x : String) (h : PatSafe x) : PatSafe (starToPercent x) :=
  ⟨starToPercent_all _ (by decide) x h.1, starToPercent_all _ (by decide) x h.2⟩

/-- tag filters agree when every requested key is a plain JSON-path label -/
theorem tags_agree (tags q : SMap) (h : ∀ kv ∈ q, PlainKey kv.1 = true) : dTagsMatch .pg tags q = dTagsMatch .sqlite tags q := by
  -- on a plain key sqlite's `json_extract` is the lookup
  have key : jsonContains tags q = sqliteTagsMatch tags q := by
    rw [Bool.eq_iff_iff, jsonContains, sqliteTagsMatch, List.all_eq_true, List.all_eq_true]
    exact forall_congr' fun kv => forall_congr' fun hkv => by rw [sqliteJsonExtract, if_pos (h kv hkv)]
  -- Postgres is passed NULL for an empty request and skips the filter
  cases q with
  | nil => rfl
  | cons a q => exact key

/-- the documented dialect precondition for one command on one database -/
def DialectSafe (db : Db) : Cmd → Prop
  | .searchPromises c => PatSafe c.id ∧ (∀ r ∈ db.promises, StrSafe r.id) ∧ ∀ kv ∈ c.tags, PlainKey kv.1 = true
  | .searchSchedules c => PatSafe c.id ∧ (∀ r ∈ db.schedules, StrSafe r.id) ∧ ∀ kv ∈ c.tags, PlainKey kv.1 = true
  | _ => True

/-- **C17.** For every one of the 27 command kinds with arbitrary arguments on an arbitrary database: under
    `DialectSafe` the Postgres back end applies the same guard, writes the same values and reports the same
    rows and records as the SQLite back end (`DialectSafe` is `True` for 25 of the 27 kinds). -/
theorem exec_agree (db : Db) (cmd : Cmd) (h : DialectSafe db cmd) : db.exec (defs .pg) cmd = db.exec (defs .sqlite) cmd := by
  cases cmd with
  | searchPromises c =>
    obtain ⟨hp, hids, htags⟩ := h
    have hw : ∀ r ∈ db.promises, (defs .pg).promiseSearch_where c r = (defs .sqlite).promiseSearch_where c r := fun r hr => by
      simp only [defs, promiseSearch_where, dSortIdArg, pgInt4]
      rw [dLike_agree r.id _ (hids r hr) (starToPercent_safe _ hp), tags_agree r.tags c.tags htags]
    simp only [Db.exec, List.filter_congr hw]
    rfl
  | searchSchedules c =>
    obtain ⟨hp, hids, htags⟩ := h
    have hw : ∀ r ∈ db.schedules, (defs .pg).scheduleSearch_where c r = (defs .sqlite).scheduleSearch_where c r := fun r hr => by
      simp only [defs, scheduleSearch_where, dSortIdArg, pgInt4]
      rw [dLike_agree r.id _ (hids r hr) (starToPercent_safe _ hp), tags_agree r.tags c.tags htags]
    simp only [Db.exec, List.filter_congr hw]
    rfl
  | createTasks c =>
    -- `insertTasksFrom` passes the definitions down its recursion over the callbacks, where `rfl` cannot follow
    have hins : ∀ cbs ts n, insertTasksFrom (defs .pg) c cbs ts n = insertTasksFrom (defs .sqlite) c cbs ts n := by
      intro cbs
      induction cbs with
      | nil => exact fun _ _ => rfl
      | cons cb rest ih => intro ts n; simp only [insertTasksFrom]; rw [ih]; rfl
    simp only [Db.exec]
    rw [hins]; rfl
  | _ => rfl

/-- hence whole transactions agree, as long as every command meets the precondition when it runs -/
theorem execTx_agree : ∀ (cs : List Cmd) (db : Db),
    (∀ db' c, c ∈ cs → DialectSafe db' c) → db.execTx (defs .pg) cs = db.execTx (defs .sqlite) cs := by
  intro cs
  induction cs with
  | nil => intro db _; rfl
  | cons c cs ih =>
    intro db h
    simp only [Db.execTx]
    rw [exec_agree db c (h db c (List.mem_cons_self ..))]
    cases db.exec (defs .sqlite) c with
    | error e => rfl
    | ok p =>
      obtain ⟨db1, r⟩ := p
      simp only
      rw [ih db1 (fun db' x hx => h db' x (List.mem_cons_of_mem _ hx))]

/-! ### outside the precondition the dialects really differ (documented dialect differences) -/

/-- LIKE is ASCII-case-insensitive on sqlite, case-sensitive on Postgres -/
theorem like_case_differs : likeGo true false ['a'] ['A'] = true ∧ likeGo false true ['a'] ['A'] = false := by
  simp [likeGo, asciiLower]

/-- `\` escapes the next pattern character on Postgres only -/
theorem like_backslash_differs : likeGo true false ['\\', '%'] ['%'] = false ∧ likeGo false true ['\\', '%'] ['%'] = true := by
  simp [likeGo]

/-- a tag key containing `.` never matches on sqlite (finding F14), and matches on Postgres -/
theorem tag_key_with_dot_differs : dTagsMatch .sqlite [("a.b", "x")] [("a.b", "x")] = false ∧ dTagsMatch .pg [("a.b", "x")] [("a.b", "x")] = true := by decide

/-! ### non-vacuity -/
example : ['p', '*'].all noUpper = true ∧ ['p', '*'].all (· != '\\') = true ∧ ['p', '0'].all noUpper = true := by decide

end Resonate.C17
