/-
  Properties/C13.lean — no client input (and no stored state) drives a coroutine into an assertion.

  Every `.panic` leaf of the coroutine model is one of the kernel's `util.Assert` / nil-dereference sites
  (Generated/Sites.lean lists the sites of the Go code, pinned in Proofs/SitesPin.lean).  The theorem: for EVERY
  request that passes the front ends' validation (`ValidReq`), and for every background coroutine, whatever the
  database holds and however the completions are timed, NO assertion is reachable — provided the completions
  answer the submissions (that the kernel delivers exactly such completions is Proofs/Kernel.lean, used below),
  keys are unique and promise states legal in the databases the transactions ran on (`Keys`), and the clock does
  not run backwards between two steps of one coroutine.
-/
import Resonate.Proofs.NoPanic
import Resonate.Proofs.Kernel
import Resonate.Proofs.FreshIds
import Resonate.Model.Env
namespace Resonate.C13
open Coro SqlSpec

/-- what the HTTP and gRPC front ends let through (the store asserts a non-empty state set on a promise search)
    (tied by frontdiff: a malformed request is answered 4xx without
    reaching the kernel, or reaches it in a form that satisfies this predicate) -/
def ValidReq : Req → Prop
  | .searchPromises q => q.id ≠ "" ∧ 0 < q.limit ∧ q.states ≠ []
  | .searchSchedules q => q.id ≠ "" ∧ 0 < q.limit
  | .claimTask q => q.processId ≠ "" ∧ 0 ≤ q.ttl
  | .createPromiseAndTask p tr => p.id = tr.promiseId ∧ p.timeout = tr.timeout
  | .completePromise q => promiseStateOk q.state = true   -- the store asserts a completion state (resolved / rejected / canceled / timed out)
  | _ => True

instance (r : Req) : Decidable (ValidReq r) := by
  cases r <;> simp only [ValidReq] <;> exact inferInstance

/-- **requests.** Every validated request, started at any tick `t0`, restarted at any later tick `t` (the kernel
    restarts a coroutine that lost a race), on any history of databases: no assertion is reachable. -/
theorem request_never_panics (d : Dialect) (env : Env) (r : Req) (hv : ValidReq r) (t0 t : Time) (lo : Db) (now : Time) :
    NoPanic d lo now ((r.body env t0) t) := by
  cases r with
  | readPromise id => exact np_readPromise d id t lo now
  | searchPromises q => exact np_searchPromises d q t hv.1 hv.2.1 lo now
  | createPromise q => exact np_createPromiseInner d q none false t rfl (by intro tc h; cases h) lo now
  | createPromiseAndTask p tr =>
    simp only [Req.body]
    have h1 : (p.id != tr.promiseId) = false := by simp [hv.1]
    have h2 : (p.timeout != tr.timeout) = false := by simp [hv.2]
    simp only [h1, h2, Bool.false_eq_true, if_false]
    exact np_createPromiseInner d p _ true t rfl (by intro tc h; injection h with h; subst h; simp [taskCmdOf, hv.1]) lo now
  | completePromise q => exact np_completePromise d q t lo now
  | createCallback q => exact np_createCallback d q t lo now
  -- a subscription is `registerCallback` under the subscription id (`Coro.createSubscription`, by unfolding)
  | createSubscription q => exact np_registerCallback d _ _ _ _ _ lo now
  | readSchedule id => exact np_readSchedule d id t lo now
  | searchSchedules q => exact np_searchSchedules d q t hv.1 hv.2 lo now
  | createSchedule q => exact np_createSchedule d env q t lo now
  | deleteSchedule id => exact np_deleteSchedule d id t lo now
  | acquireLock q => exact np_acquireLock d q t lo now
  | releaseLock res ex => exact np_releaseLock d res ex t lo now
  | heartbeatLocks pid => exact np_heartbeatLocks d pid t lo now
  | claimTask q => exact np_claimTask d env q t lo now hv.1 hv.2
  | completeTask id counter => exact np_completeTask d id counter t lo now
  | heartbeatTasks pid => exact np_heartbeatTasks d pid t lo now

/-- **stored state is never a poison pill.** The five background coroutines — time-out sweep, schedule firing, lock
    sweep, task dispatch, task lease sweep — started at tick `t0` and resumed at ticks that are not earlier, reach no
    assertion whatever promises, schedules, locks, tasks and registrations the database holds (templates that do not
    evaluate and cron expressions without a next time are skipped, not asserted). -/
theorem background_never_panics (d : Dialect) (env : Env) (k : BgKind) (t0 : Time) (lo : Db) (now : Time) (hnow : t0 ≤ now) :
    NoPanic d lo now (k.body env t0) := by
  cases k with
  | timeoutPromises => exact np_timeoutPromises d env t0 lo now hnow
  | schedulePromises => exact np_schedulePromises d env t0 lo now hnow
  | timeoutLocks => exact np_timeoutLocks d t0 lo now
  | timeoutTasks => exact np_timeoutTasks d env t0 lo now
  | enqueueTasks => exact np_enqueueTasks d env t0 lo now

/-- the hypotheses are satisfiable: a fresh database has unique keys -/
theorem keys_empty : Keys ({} : Db) := keysX_empty.keys

/-- … and what `NoPanic` buys: a coroutine that satisfies it and is resumed with answering completions is never at an
    assertion, and neither is what it continues with — one step of the unfolding, to be iterated along a run -/
theorem no_panic_step (d : Dialect) (lo : Db) (now : Time) (subs : List Subm) (k : Time → List Cpl → Co)
    (h : NoPanic d lo now (.yield subs k)) (t : Time) (cpls : List Cpl) (hi : Db) (ht : now ≤ t) (hm : PromMono lo hi)
    (ha : Answers d lo hi subs cpls) : NoPanic d hi t (k t cpls) ∧ ∀ s, k t cpls ≠ .panic s := by
  cases h with
  | yield _ _ _ _ hk =>
    have := hk t cpls hi ht hm ha
    refine ⟨this, ?_⟩
    intro s hs
    rw [hs] at this
    cases this

/-! ### the whole server: no run of the kernel ever reaches an assertion

  The two theorems above are about one coroutine fed with answering completions.  Proofs/Kernel.lean shows that the
  kernel (`Sys.step`: ticks, completion delivery, store batches with injected failures, router / sender completions,
  shutdown, crashes) feeds every coroutine exactly such completions, on databases whose keys are unique
  (Proofs/KeysInv.lean, preserved by every command the coroutines emit: Proofs/Walk.lean), at clocks that do not
  step back.  Hence, for EVERY run that respects `RunOkV`, no assertion event is ever emitted — whatever the workload,
  the interleaving and batching of store transactions, the queue / batch / pool sizes, the injected failures and the
  crash points. -/

theorem bgOk (d : Dialect) (env : Env) : BgOk d env := background_never_panics d env

theorem stateOk_of_valid (r : Req) (hv : ValidReq r) : r.StateOk := by
  cases r <;> simp only [Req.StateOk] <;> first | exact hv | trivial

/-- what a run must respect: submitted requests passed the front ends' validation; the clock given to ticks does not
    step back (a clock stepping back trips elapsed-time assertions: DESIGN observation O3); a thread id started by a
    tick is not in use (the model names submissions by thread id + sequence number where Go uses closures); a router /
    sender completion is one of that subsystem.  Decidable: the model driver evaluates it at every step of every
    script of the correspondence harness. -/
def StepOkV (clk : Time) (s : Sys) : Choice → Prop
  | .submit _ r => ValidReq r
  | .tick t => TickOk clk s t
  | .complete id c => ∀ e ∈ s.pending, e.1 = id → KindOk e.2 c
  | _ => True

def RunOkV : Time → Sys → List Choice → Prop
  | _, _, [] => True
  | clk, s, c :: cs => StepOkV clk s c ∧ RunOkV (clkAfter clk c) (s.step c).1 cs

instance (s : Subm) (c : Cpl) : Decidable (KindOk s c) := by
  cases s <;> cases c <;> simp only [KindOk] <;> exact inferInstance

instance (clk : Time) (s : Sys) (t : Time) : Decidable (TickOk clk s t) := by
  unfold TickOk TidsDistinct; exact inferInstance

instance (clk : Time) (s : Sys) (c : Choice) : Decidable (StepOkV clk s c) := by
  cases c <;> simp only [StepOkV] <;> exact inferInstance

/-- executable form of `RunOkV` -/
def runOkB : Time → Sys → List Choice → Bool
  | _, _, [] => true
  | clk, s, c :: cs => decide (StepOkV clk s c) && runOkB (clkAfter clk c) (s.step c).1 cs

theorem runOkB_sound : ∀ (cs : List Choice) (clk : Time) (s : Sys), runOkB clk s cs = true → RunOkV clk s cs := by
  intro cs
  induction cs with
  | nil => intro _ _ _; trivial
  | cons c cs ih =>
    intro clk s h
    simp only [runOkB, Bool.and_eq_true, decide_eq_true_eq] at h
    exact ⟨h.1, ih _ _ h.2⟩

theorem runOkV_runOk (d : Dialect) : ∀ (cs : List Choice) (clk : Time) (s : Sys), RunOkV clk s cs → RunOk d clk s cs := by
  intro cs
  induction cs with
  | nil => intro _ _ _; trivial
  | cons c cs ih =>
    intro clk s h
    refine ⟨?_, ih _ _ h.2⟩
    have h1 := h.1
    cases c with
    | submit tid r => exact ⟨request_never_panics d s.env r h1, stateOk_of_valid r h1⟩
    | tick t | complete id cp => exact h1
    | _ => trivial

/-- **the server never asserts.** From a freshly booted server over any database with unique keys: along every run
    that respects `RunOkV`, no assertion event — no `util.Assert` / nil-dereference site of any of the 22 coroutines, no
    request coroutine finishing without a response — is ever emitted. -/
theorem server_never_asserts (d : Dialect) (env : Env) (db : Db) (hk : KeysX db) (clk : Time) (cs : List Choice)
    (hok : RunOkV clk (Sys.boot env d (defs d) db) cs) :
    ∀ e ∈ (Sys.boot env d (defs d) db).runEvents cs, ∀ tid site, e ≠ .panic tid site := by
  intro e he tid site heq
  have := (run_no_assert d cs _ clk (bgOk d env) (kinv_boot d env db clk hk) (runOkV_runOk d cs clk _ hok)).1 e he
  rw [heq] at this
  cases this

/-- **the store never asserts.** Along every such run, no store batch fails with an assertion of the store layer (a
    search without a pattern, a completion state outside resolved / rejected / canceled / timed out, a task command
    without states, …) — in the Go code those panic the store's worker goroutine and take the process down.  Store
    batches may still fail: with an injected failure, or with the UNIQUE violation of a registration whose derived id
    collides with an existing task (finding F2) — never with an assertion. -/
theorem store_never_asserts (d : Dialect) (env : Env) (db : Db) (hk : KeysX db) (clk : Time) (cs : List Choice)
    (hok : RunOkV clk (Sys.boot env d (defs d) db) cs) :
    ∀ e ∈ (Sys.boot env d (defs d) db).runErrs cs, ∀ m, e ≠ .assertion m :=
  run_store_no_assert d cs _ clk (bgOk d env) (kinv_boot d env db clk hk) (runOkV_runOk d cs clk _ hok)

/-- **the server never stops.** Along every such run the kernel never halts: not on an assertion, and not by a
    coroutine running away (every coroutine reaches its next blocking submission, a response or a restart within a
    bounded number of steps: Proofs/Walk.lean, so the model's per-tick fuel is never exhausted). -/
theorem server_never_halts (d : Dialect) (env : Env) (db : Db) (hk : KeysX db) (clk : Time) (cs : List Choice)
    (hok : RunOkV clk (Sys.boot env d (defs d) db) cs) : ((Sys.boot env d (defs d) db).run cs).halted = none :=
  run_never_halts d cs _ clk (bgOk d env) (kinv_boot d env db clk hk) (runOkV_runOk d cs clk _ hok)

/-- … and the key invariants the assertions rely on hold in every state such a run reaches: promise, schedule, lock and
    task ids are unique, promise states legal, every invocation task has its promise. -/
theorem reachable_keys (d : Dialect) (env : Env) (db : Db) (hk : KeysX db) (clk : Time) (cs : List Choice)
    (hok : RunOkV clk (Sys.boot env d (defs d) db) cs) : KeysX ((Sys.boot env d (defs d) db).run cs).db := by
  obtain ⟨_, clk', h⟩ := run_no_assert d cs _ clk (bgOk d env) (kinv_boot d env db clk hk) (runOkV_runOk d cs clk _ hok)
  exact h.keys

/-! ### the naming hypothesis, discharged

  `RunOkV` asks that thread ids started by a tick are not in use.  Proofs/FreshIds.lean derives that from what a
  client and an operator actually control: request ids are unique and not of the form `<BackgroundName>:<n>`, and the
  signal timeout is positive.  `RunOkF` is `RunOkV` with that in place of the per-tick condition. -/

def StepOkF (used : List String) (clk : Time) (s : Sys) : Choice → Prop
  | .submit tid r => ValidReq r ∧ tid ∉ used ∧ NotBg tid
  | .tick t => clk ≤ t
  | .complete id c => ∀ e ∈ s.pending, e.1 = id → KindOk e.2 c
  | _ => True

def RunOkF : List String → Time → Sys → List Choice → Prop
  | _, _, _, [] => True
  | used, clk, s, c :: cs => StepOkF used clk s c ∧ RunOkF (usedAfter used c) (clkAfter clk c) (s.step c).1 cs

theorem runOkF_runOkV : ∀ (cs : List Choice) (used : List String) (clk : Time) (s : Sys), FInv used s → 0 < s.env.cfg.signalTimeout →
    RunOkF used clk s cs → RunOkV clk s cs := by
  intro cs
  induction cs with
  | nil => intro _ _ _ _ _ _; trivial
  | cons c cs ih =>
    intro used clk s hf hpos h
    have h1 := h.1
    have hstep : FInv (usedAfter used c) (s.step c).1 :=
      finv_step used s c hf (Int.le_of_lt hpos) fun tid r hc => by subst hc; exact h1.2
    refine ⟨?_, ih _ _ _ hstep (by rw [step_env]; exact hpos) h.2⟩
    cases c with
    | submit tid r => exact h1.1
    | tick t => exact finv_tickOk used s clk t hf hpos h1
    | complete id cp => exact h1
    | _ => trivial

/-- **the server never asserts, never stops, and its store never asserts** — for every run in which request ids are
    unique and not background-shaped, submitted requests passed validation, the clock does not step back, router / sender
    completions are of their subsystem's kind, and the signal timeout is positive. -/
theorem server_is_safe (d : Dialect) (env : Env) (db : Db) (hk : KeysX db) (hpos : 0 < env.cfg.signalTimeout) (clk : Time) (cs : List Choice)
    (hok : RunOkF [] clk (Sys.boot env d (defs d) db) cs) :
    (∀ e ∈ (Sys.boot env d (defs d) db).runEvents cs, ∀ tid site, e ≠ .panic tid site) ∧
    (∀ e ∈ (Sys.boot env d (defs d) db).runErrs cs, ∀ m, e ≠ .assertion m) ∧
    ((Sys.boot env d (defs d) db).run cs).halted = none ∧
    KeysX ((Sys.boot env d (defs d) db).run cs).db := by
  have hv := runOkF_runOkV cs [] clk _ (finv_boot env d (defs d) db) hpos hok
  exact ⟨server_never_asserts d env db hk clk cs hv, store_never_asserts d env db hk clk cs hv,
    server_never_halts d env db hk clk cs hv, reachable_keys d env db hk clk cs hv⟩

/-- executable form of `RunOkF` (request ids are accepted when new and starting with a character other than `T`, `S`, `E`) -/
def freshTidB (used : List String) (tid : String) : Bool :=
  !used.contains tid && (match tid.toList with | c :: _ => c != 'T' && c != 'S' && c != 'E' | [] => false)

theorem freshTidB_sound (used : List String) (tid : String) (h : freshTidB used tid = true) : tid ∉ used ∧ NotBg tid := by
  simp only [freshTidB, Bool.and_eq_true, Bool.not_eq_true'] at h
  refine ⟨by simpa using h.1, ?_⟩
  cases hl : tid.toList with
  | nil => simp [hl] at h
  | cons c cs =>
    simp only [hl, Bool.and_eq_true, bne_iff_ne, ne_eq] at h
    exact notBg_of_first tid c cs hl h.2.1.1 h.2.1.2 h.2.2

def runOkFB : List String → Time → Sys → List Choice → Bool
  | _, _, _, [] => true
  | used, clk, s, c :: cs =>
    (match c with
      | .submit tid r => decide (ValidReq r) && freshTidB used tid
      | .tick t => decide (clk ≤ t)
      | .complete id cp => decide (∀ e ∈ s.pending, e.1 = id → KindOk e.2 cp)
      | _ => true) && runOkFB (usedAfter used c) (clkAfter clk c) (s.step c).1 cs

theorem runOkFB_sound : ∀ (cs : List Choice) (used : List String) (clk : Time) (s : Sys), runOkFB used clk s cs = true → RunOkF used clk s cs := by
  intro cs
  induction cs with
  | nil => intro _ _ _ _; trivial
  | cons c cs ih =>
    intro used clk s h
    simp only [runOkFB, Bool.and_eq_true] at h
    refine ⟨?_, ih _ _ _ h.2⟩
    cases c with
    | submit tid r =>
      simp only [Bool.and_eq_true, decide_eq_true_eq] at h
      exact ⟨h.1.1, freshTidB_sound used tid h.1.2⟩
    | tick t | complete id cp => simpa [StepOkF] using h.1
    | _ => trivial

/-- the hypotheses are met by ordinary runs (a test, not the theorem): a create with its router and store
    completions, a crash, a retry whose read fails after processing, another retry — `RunOkV` holds and responses are produced -/
def demoEnv : Env := defaultEnv { url := "http://r", coroutineMaxSize := 10, taskEnqueueDelay := 1000 }
def demoCreate : Req := .createPromise { id := "p", idempotencyKey := some "k", strict := false, param := {}, timeout := 5000, tags := [] }
def demoRun : List Choice :=
  [.submit "r1" demoCreate, .tick 10, .execStore [(⟨"r1", 0⟩, .ok)], .tick 11, .complete ⟨"r1", 1⟩ (.router false ""), .tick 12,
   .execStore [(⟨"r1", 2⟩, .ok)], .tick 13, .crash,
   .submit "r2" demoCreate, .tick 14, .execStore [(⟨"r2", 0⟩, .after)], .tick 15,
   .submit "r3" demoCreate, .tick 16, .execStore [(⟨"r3", 0⟩, .ok)], .tick 17]
#guard runOkB 0 (Sys.boot demoEnv .sqlite (defs .sqlite) {}) demoRun
#guard runOkFB [] 0 (Sys.boot demoEnv .sqlite (defs .sqlite) {}) demoRun
#guard ((Sys.boot demoEnv .sqlite (defs .sqlite) {}).runEvents demoRun).any (fun e => match e with | .respond _ _ => true | _ => false)

/-- an invalid request is exactly one the theorem excludes — e.g. an empty search pattern reaches the kernel's assertion
    in the model as in the code, which is why the front ends must (and do, frontdiff) refuse it -/
example : ¬ ValidReq (.searchPromises { id := "", states := [], tags := [], limit := 1, sortId := none }) := by
  simp [ValidReq]
example : ValidReq (.claimTask { id := "t", counter := 1, processId := "w", ttl := 0 }) := by simp [ValidReq]

end Resonate.C13
