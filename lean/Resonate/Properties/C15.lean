/-
  Properties/C15.lean — both front ends render every kernel status; outcome flags agree with the
  kernel.  All statements are over the tables translate/gofacts extracts from /repo on every run
  (Generated/Status.lean); the quantifier is the finite universe of `StatusCode` constants, so evaluation
  over the whole table is a proof.  Equalities of tables are by `rfl` (the unifier compares string literals as
  literals; `decide` would compare them byte by byte through `String.decEq`, a hundred times dearer); the `code()`
  switch is swept once (`grpc_lookup`), and what is said about gRPC codes follows from that.
-/
import Resonate.Generated.Status
import Resonate.Model.Coroutines
namespace Resonate.C15
open Gen

/-- the status constants the model uses are the code's constants -/
theorem model_statuses : allStatuses = [
    ("StatusOK", S_OK), ("StatusCreated", S_CREATED), ("StatusNoContent", S_NOCONTENT),
    ("StatusFieldValidationError", S_FIELD_VALIDATION), ("StatusCallbackInvalidPromise", S_CALLBACK_INVALID_PROMISE),
    ("StatusPromiseAlreadyResolved", S_PROMISE_ALREADY_RESOLVED), ("StatusPromiseAlreadyRejected", S_PROMISE_ALREADY_REJECTED),
    ("StatusPromiseAlreadyCanceled", S_PROMISE_ALREADY_CANCELED), ("StatusPromiseAlreadyTimedout", S_PROMISE_ALREADY_TIMEDOUT),
    ("StatusLockAlreadyAcquired", S_LOCK_ALREADY_ACQUIRED), ("StatusTaskAlreadyClaimed", S_TASK_ALREADY_CLAIMED),
    ("StatusTaskAlreadyCompleted", S_TASK_ALREADY_COMPLETED), ("StatusTaskInvalidCounter", S_TASK_INVALID_COUNTER),
    ("StatusTaskInvalidState", S_TASK_INVALID_STATE), ("StatusPromiseNotFound", S_PROMISE_NOT_FOUND),
    ("StatusScheduleNotFound", S_SCHEDULE_NOT_FOUND), ("StatusLockNotFound", S_LOCK_NOT_FOUND), ("StatusTaskNotFound", S_TASK_NOT_FOUND),
    ("StatusPromiseRecvNotFound", S_PROMISE_RECV_NOT_FOUND), ("StatusPromiseAlreadyExists", S_PROMISE_ALREADY_EXISTS),
    ("StatusScheduleAlreadyExists", S_SCHEDULE_ALREADY_EXISTS), ("StatusInternalServerError", S_INTERNAL), ("StatusAIOEchoError", S_AIO_ECHO),
    ("StatusAIOMatchError", S_AIO_MATCH), ("StatusAIOQueueError", S_AIO_QUEUE), ("StatusAIOStoreError", S_AIO_STORE),
    ("StatusSystemShuttingDown", S_SHUTTING_DOWN), ("StatusAPISubmissionQueueFull", S_API_QUEUE_FULL),
    ("StatusAIOSubmissionQueueFull", S_AIO_QUEUE_FULL), ("StatusSchedulerQueueFull", S_SCHEDULER_QUEUE_FULL)] := rfl

/-- the gRPC code family of an error status, by its HTTP class -/
def errClass : Nat → String
  | 400 => "InvalidArgument" | 403 => "PermissionDenied" | 404 => "NotFound" | 409 => "AlreadyExists" | 500 => "Internal"
  | _ => "Unavailable"

/-- what `code()` answers is a function of the status number alone: `OK` for 2xxxx, else the class of `number / 100` -/
def grpcOf (c : Nat) : String := if 20000 ≤ c ∧ c < 30000 then "OK" else errClass (c / 100)

theorem errClass_ne_ok (h : Nat) : errClass h ≠ "OK" := by unfold errClass; split <;> decide

/-- the one sweep over the `code()` switch: every status constant has a case, and it is `grpcOf` of its number -/
theorem grpc_lookup : ∀ s ∈ allStatuses, grpcCode.lookup s.1 = some (grpcOf s.2) := by decide

/-- **gRPC never panics on a status**: every status constant has a case in `code()` -/
theorem grpc_code_total : ∀ s ∈ allStatuses, (grpcCode.lookup s.1).isSome = true :=
  fun s hs => by rw [grpc_lookup s hs]; rfl

theorem stringCases_eq : stringCases = allStatuses.map Prod.fst := rfl

/-- **error rendering never panics**: every status constant has a case in `StatusCode.String()` -/
theorem status_string_total : ∀ s ∈ allStatuses, s.1 ∈ stringCases :=
  fun _ hs => stringCases_eq ▸ List.mem_map_of_mem hs

/-- gRPC answers OK exactly for the successful statuses (2xxxx) -/
theorem grpc_ok_iff_successful : ∀ s ∈ allStatuses, (grpcCode.lookup s.1 == some "OK") = (decide (20000 ≤ s.2) && decide (s.2 < 30000)) := by
  intro s hs
  rw [grpc_lookup s hs, ← Bool.decide_and, grpcOf]
  by_cases h : 20000 ≤ s.2 ∧ s.2 < 30000
  · simp [h]
  · simp [h, errClass_ne_ok]

/-- error classes map to the matching gRPC code family -/
theorem grpc_code_families : ∀ s ∈ allStatuses,
    (s.2 / 100 = 400 → grpcCode.lookup s.1 = some "InvalidArgument") ∧
    (s.2 / 100 = 403 → grpcCode.lookup s.1 = some "PermissionDenied") ∧
    (s.2 / 100 = 404 → grpcCode.lookup s.1 = some "NotFound") ∧
    (s.2 / 100 = 409 → grpcCode.lookup s.1 = some "AlreadyExists") ∧
    (s.2 / 100 = 500 → grpcCode.lookup s.1 = some "Internal") ∧
    (s.2 / 100 = 503 → grpcCode.lookup s.1 = some "Unavailable") := by
  intro s hs
  rw [grpc_lookup s hs, grpcOf]
  refine ⟨?_, ?_, ?_, ?_, ?_, ?_⟩
  all_goals
    intro h
    -- with `s.2 / 100` at 400 or above the status is no 2xxxx, so `grpcOf` answers `errClass` of the class, evaluated by `rfl`
    rw [if_neg (by omega), h]
    rfl

/-- **HTTP**: the reply code is the kernel status divided by 100, and it is always one of the nine
    HTTP codes the API documents -/
theorem http_divisor : httpDivisor = 100 := rfl
theorem http_codes : ∀ s ∈ allStatuses, s.2 / httpDivisor ∈ [200, 201, 204, 400, 403, 404, 409, 500, 503] := by decide

/-- the success status the kernel answers for each operation that has a gRPC outcome flag
    (what the model coroutines return; see the `_returns` theorems below) -/
def kernelSuccess : String → Nat
  | "Acquired" => S_CREATED
  | "Released" => S_NOCONTENT
  | "Claimed" => S_CREATED
  | "Completed" => S_CREATED
  | _ => S_OK            -- `Noop`: the operation found its work already done

/-- **outcome flags agree with the kernel**: every flag is computed by comparing the kernel status with
    exactly the status the kernel returns for that outcome -/
theorem flags_agree : ∀ f ∈ grpcFlags, allStatuses.lookup f.2.2 = some (kernelSuccess f.2.1) := by decide

/-- every operation with an outcome has its flag -/
theorem flags_present : grpcFlags.map (fun f => (f.1, f.2.1)) =
    [("CreateCallback", "Noop"), ("AcquireLock", "Acquired"), ("ReleaseLock", "Released"), ("CreatePromise", "Noop"),
     ("CreatePromiseAndTask", "Noop"), ("ResolvePromise", "Noop"), ("RejectPromise", "Noop"), ("CancelPromise", "Noop"),
     ("CreateSubscription", "Noop"), ("ClaimTask", "Claimed"), ("CompleteTask", "Completed")] := rfl

/-! the kernel side of the flags: what the (model) coroutines answer on success -/

theorem release_returns (res e : String) (t0 t : Time) :
    ∃ k, Coro.releaseLock res e t0 = .yield [.store [.releaseLock ⟨res, e⟩]] k ∧ k t [.store [.rows 1]] = .done (some (.status S_NOCONTENT)) := ⟨_, rfl, rfl⟩

theorem acquire_returns (req : AcquireLockReq) (t0 t : Time) :
    ∃ subs k l, Coro.acquireLock req t0 = .yield subs k ∧ k t [.store [.rows 1]] = .done (some (.lock S_CREATED (some l))) := ⟨_, _, _, rfl, rfl⟩

theorem heartbeat_counts (p : String) (t0 t : Time) (n : Nat) :
    ∃ subs k, Coro.heartbeatTasks p t0 = .yield subs k ∧ k t [.store [.rows n]] = .done (some (.count S_OK n)) := ⟨_, _, rfl, rfl⟩

/-! ### non-vacuity: the universe is the 30 constants of status.go -/
example : allStatuses.length = 30 ∧ ("StatusCallbackInvalidPromise", 40001) ∈ allStatuses := by decide

end Resonate.C15
