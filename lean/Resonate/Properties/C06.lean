/-
  Properties/C06.lean — acknowledged writes are durable; requests are all-or-nothing across crashes.

  In the kernel model (Model/System.lean) a crash drops every volatile thing — coroutines, queues, pending
  submissions, undelivered completions — and keeps the database; `Sys.step .crash` is tied to the real
  system by sysdiff (crash = a new system.System + store object on the same sqlite file) and by `crashdiff`
  (the real `resonate serve` binary killed with SIGKILL and restarted on the same file).  What a committed sqlite
  transaction survives (power loss, fsync) is sqlite's and outside the model.
-/
import Resonate.Properties.C01
import Resonate.Properties.C05
import Resonate.Properties.C08
import Resonate.Properties.C09
import Resonate.Properties.C16
import Resonate.Proofs.CoSteps
import Resonate.Proofs.Lin
namespace Resonate.C06
open SqlSpec Coro

/-! ### a crash is a restart on the stored state, and nothing else -/

theorem crash_keeps_database (s : Sys) : (s.step .crash).1.db = s.db := rfl

/-- after a crash the server is exactly a freshly started server on the same database: nothing but the
    database influences what happens next (background processing resumes from the stored state) -/
theorem crash_is_restart (s : Sys) :
    (s.step .crash).1 = { (Sys.boot s.env s.d s.g s.db) with bgEnabled := s.bgEnabled } ∧ (s.step .crash).2 = [] := ⟨rfl, rfl⟩

theorem recovery_is_a_fresh_start (s : Sys) (cs : List Choice) :
    s.run (.crash :: cs) = ({ (Sys.boot s.env s.d s.g s.db) with bgEnabled := s.bgEnabled } : Sys).run cs := rfl

/-- repeated crashes during recovery change nothing either -/
theorem crash_idempotent (s : Sys) : ((s.step .crash).1.step .crash).1 = (s.step .crash).1 := rfl

/-! ### what is committed stays, across any continuation with any number of crashes -/

/-- promises: whatever the run does after a state — including crashes at any point, repeated — every promise
    that was stored is still stored with its creation fields, and a completed one is unchanged for ever -/
theorem committed_promises_survive (env : Env) (d : Dialect) (db0 : Db) (before after : List Choice) :
    PromMono ((Sys.boot env d (defs d) db0).run before).db ((Sys.boot env d (defs d) db0).run (before ++ after)).db :=
  C01.any_run env d db0 before after

/-- registrations: in every state reachable through any run with any crashes, every stored registration still
    awaits a stored, pending promise — a crash cannot leave a completed promise with unconverted registrations -/
theorem no_half_completed_promise (env : Env) (d : Dialect) (cs : List Choice) (hcs : ∀ c ∈ cs, c.Ok) :
    CbInv ((Sys.boot env d (defs d)).run cs).db := C05.no_registration_outlives_its_promise d env cs hcs

/-! ### the kernel reports a store result only for a transaction it executed, and the effect is in the database -/

/-- **acknowledged ⇒ executed.** A store completion carrying results reaches a coroutine only if the kernel
    executed exactly the transaction that coroutine had submitted, on the database as it then was, and those are
    its results; what it wrote is related to the database after the batch by every relation transactions respect.
    (A failed batch, a failure injected before processing, or one after it, all complete with `err` instead.) -/
theorem store_completion_is_truthful (R : Db → Db → Prop) (hr : ∀ db, R db db) (ht : ∀ a b c, R a b → R b c → R a c)
    (s : Sys) (htx : ∀ db db' cs rs, db.execTx s.g cs = .ok (db', rs) → R db db')
    (items : List (SubId × FailMode)) (id : SubId) (rs : List Res)
    (hin : (id, Cpl.store rs) ∈ (s.execStore items).1.cq) (hnew : (id, Cpl.store rs) ∉ s.cq) :
    ∃ tx, (id, Subm.store tx) ∈ s.pending ∧
      ∃ dbi dbi', R s.db dbi ∧ dbi.execTx s.g tx = .ok (dbi', rs) ∧ R dbi' (s.execStore items).1.db := by
  rw [execStore_eq] at hin ⊢
  rcases List.mem_append.mp hin with hin | hin
  · exact absurd hin hnew
  · -- each new completion answers a pending transaction: with `err`, or with its results on some `dbi` between `s.db` and the
    -- database after the batch (third clause of `batch_spec`; no invariant, no shape of transactions needed: `I`, `Pt` trivial)
    have hspec := (batch_spec s items R hr ht (I := fun _ => True) (Pt := fun _ => True) htx
      (hI := fun _ _ _ _ _ _ _ => trivial) (hi := trivial) (hp := fun _ _ _ _ => trivial)).2.2
    obtain ⟨tx, hmem, herr | ⟨rs', hst, dbi, dbi', hpre, _, hx, hpost⟩⟩ := hspec _ hin
    · cases herr
    · injection hst with hst; subst hst
      exact ⟨tx, hmem, dbi, dbi', hpre, hx, hpost⟩

/-! ### an acknowledged creation / completion is in the database (and stays: `committed_promises_survive`) -/

/-- **create, acknowledged ⇒ stored.** If the coroutine answers a creation with `201` it was resumed with a result
    that reports one inserted row, whatever the router had answered; and whenever the create command reports an inserted
    row, the database after that transaction holds the promise with exactly the requested id, parameter, timeout, tags,
    key and creation time. -/
theorem create_ack_needs_inserted_row_any_route (req : CreatePromiseReq) (t0 t t1 t2 : Time) (rc : Cpl) (rs : List Res) (p : Option Promise)
    (h : ((((createPromise req t0).next t gotNone).next t1 [rc]).next t2 [.store rs]) = .done (some (.promise S_CREATED p))) :
    rs = [.rows 1] ∨ rs = [.rows2 1 1] := by
  rw [show (createPromise req t0).next t gotNone = createPromiseChild _ none [] _ from rfl] at h
  rcases createPromiseChild_next _ none [] _ t1 rc with ⟨code, e⟩ | e <;> rw [e] at h
  · cases h  -- the router failed: an error status, not `201`
  rcases childStore_inv h (fun _ => nofun) with he | ⟨_, hrs, hlen, ⟨n, hn, hhead⟩, hk⟩
  · cases he  -- store error: `500`
  · cases hrs
    obtain ⟨r, rfl⟩ := List.length_eq_one_iff.mp hlen
    rcases Nat.le_one_iff_eq_zero_or_eq_one.mp hn with rfl | rfl
    · -- no promise created: the continuation (`hk`) retries
      rcases hhead with hh | hh <;> cases hh <;> cases hk
    · exact hhead.imp (fun hh => by cases hh; rfl) (fun hh => by cases hh; rfl)

theorem create_ack_needs_inserted_row (req : CreatePromiseReq) (t0 t t1 t2 : Time) (recv : String) (rs : List Res) (p : Option Promise)
    (h : ((((createPromise req t0).next t gotNone).next t1 [.router false recv]).next t2 [.store rs]) = .done (some (.promise S_CREATED p))) :
    rs = [.rows 1] ∨ rs = [.rows2 1 1] :=
  create_ack_needs_inserted_row_any_route req t0 t t1 t2 _ rs p h

theorem created_row_is_stored (d : Dialect) (db db' : Db) (c : CreatePromiseCmd) (n : Nat)
    (h : db.exec (defs d) (.createPromise c) = .ok (db', .rows n)) (hn : n ≠ 0) :
    ∃ r ∈ db'.promises, r.id = c.id ∧ r.state = 1 ∧ r.paramData = c.param.data ∧ r.timeout = c.timeout ∧
      r.idempotencyKeyForCreate = c.idempotencyKey ∧ r.createdOn = some c.createdOn := by
  -- the id was new (`created_absent`), so the insert appended the row built from the command
  rw [C16.createPromise_absent d db c (created_absent d db db' c n hn h)] at h
  cases h
  exact ⟨promiseInsert_row c (db.seqP + 1), by simp, rfl, rfl, rfl, rfl, rfl, rfl⟩

/-- **complete, acknowledged ⇒ stored.** The coroutine answers a completion with the `201` / lazy-time-out status
    only when the completion block reported exactly one updated promise row … -/
theorem complete_ack_needs_updated_row (c : Cpl) (h : completeOut c = .ok true) :
    ∃ n1 n2, c = .store [.rows 1, .rows n1, .rows n2, .rows n2] := by
  unfold completeOut at h
  split at h
  · rename_i n0 n1 n2 n3
    split at h
    · cases h
    · split at h
      · cases h
      · rename_i h1 h2
        injection h with h
        have h0 : n0 = 1 := by simpa using h
        have h23 : n2 = n3 := by simpa using h2
        subst h0; subst h23
        exact ⟨n1, n2, rfl⟩
  · cases h
  · cases h

/-- … and then the promise row, wherever it stood when the coroutine read it, carries the completion's state, value,
    key and time after the transaction — whatever other transactions ran in between (C01.own_completion_is_stored). -/
theorem completed_row_is_stored (d : Dialect) (db1 db2 db3 : Db) (hm : PromMono db1 db2) (hu : PromIds db2)
    (i : Nat) (r : PromiseRow) (hr : db1.promises[i]? = some r) (cmd : UpdatePromiseCmd) (hid : cmd.id = r.id)
    (hx : db2.exec (defs d) (.updatePromise cmd) = .ok (db3, .rows 1)) :
    db3.promises[i]? = some (promiseUpdate_set cmd r) :=
  C01.own_completion_is_stored d db1 db2 db3 hm hu i r hr cmd hid (.rows 1) hx rfl

/-! ### the other kinds: an acknowledged registration, lock, schedule is in the database -/

/-- **lock, acknowledged ⇒ stored.** `201` is answered only on a result reporting exactly one written row … -/
theorem lock_ack_needs_row (req : AcquireLockReq) (t0 t : Time) (cpls : List Cpl) (l : Option Lock)
    (h : (acquireLock req t0).next t cpls = .done (some (.lock S_CREATED l))) : cpls = [.store [.rows 1]] :=
  -- the continuation is `rowsK` (Proofs/CoSteps.lean): `err` ↦ `500`, more than one row ↦ panic, else `k n` for `n` rows; the
  -- outcome (here the `201`) is none of `500`, a panic, `k 0` (the three `nofun`, in this order), so `n = 1`.  So at every `rowsK_one` below
  rowsK_one (show rowsK _ _ _ cpls = _ from h) nofun (fun _ => nofun) nofun

/-- … and then the lock row with exactly the requested holder, process, ttl and expiry is in the database -/
theorem acquired_lock_is_stored (d : Dialect) (db db' : Db) (c : AcquireLockCmd) (n : Nat)
    (h : db.exec (defs d) (.acquireLock c) = .ok (db', .rows n)) (hn : n ≠ 0) :
    ∃ r ∈ db'.locks, r.resourceId = c.resourceId ∧ r.executionId = c.executionId ∧ r.processId = c.processId ∧
      r.ttl = c.ttl ∧ r.expiresAt = c.expiresAt := by
  -- a conditional write (`ite_ok_eq_ok`: see the header of Proofs/Frame.lean), here and in the two `…_is_stored` below
  rcases ite_ok_eq_ok.mp h with ⟨_, h⟩ | ⟨_, h⟩ <;> cases h
  · -- the resource has a row: the conflict clause rewrote the holder's own row, found by the count
    obtain ⟨r, _, hp, hmem⟩ := updated_mem_of_countP_pos (fun r => (defs d).lockAcquire_conflictSet r ((defs d).lockAcquire_row c))
      (Nat.pos_of_ne_zero hn)
    obtain ⟨hres, hexe⟩ := (C09.acquire_conflict_iff d c r).mp hp
    exact ⟨_, hmem, hres, hexe, rfl, rfl, rfl⟩
  · exact ⟨(defs d).lockAcquire_row c, by simp, rfl, rfl, rfl, rfl, rfl⟩

/-- **schedule, acknowledged ⇒ stored.** -/
theorem schedule_ack_needs_row (env : Env) (req : CreateScheduleReq) (t0 t t2 : Time) (cpls2 : List Cpl) (sc : Option Schedule)
    (h : ((createSchedule env req t0).next t [.store [.schedules []]]).next t2 cpls2 = .done (some (.schedule S_CREATED sc))) :
    cpls2 = [.store [.rows 1]] := by
  simp only [createSchedule, Co.next, readScheduleRow] at h
  cases hc : env.cronNext req.cron t with
  | none => rw [hc] at h; cases h
  | some next =>
    rw [hc] at h
    exact rowsK_one (show rowsK _ _ _ cpls2 = _ from h) nofun (fun _ => nofun) nofun

theorem created_schedule_is_stored (d : Dialect) (db db' : Db) (c : CreateScheduleCmd) (n : Nat)
    (h : db.exec (defs d) (.createSchedule c) = .ok (db', .rows n)) (hn : n ≠ 0) :
    ∃ r ∈ db'.schedules, r.id = c.id ∧ r.cron = c.cron ∧ r.promiseId = c.promiseId ∧ r.promiseTimeout = c.promiseTimeout ∧
      r.nextRunTime = c.nextRunTime ∧ r.lastRunTime = none ∧ r.idempotencyKey = c.idempotencyKey ∧ r.createdOn = c.createdOn := by
  rcases ite_ok_eq_ok.mp h with ⟨_, h⟩ | ⟨_, h⟩ <;> cases h
  · exact absurd rfl hn
  · exact ⟨(defs d).scheduleInsert_row c (db.seqS + 1), by simp, rfl, rfl, rfl, rfl, rfl, rfl, rfl, rfl⟩

/-- **registration, acknowledged ⇒ stored.** A callback / subscription is answered `201` with the registration only
    on a result reporting one inserted row … -/
theorem registration_ack_needs_row (pid cb recv : String) (m : Mesg) (to : Int) (t t2 : Time) (r : PromiseRow) (cpls2 : List Cpl)
    (p : Option Promise) (c : Option Callback)
    (h : ((registerCallback pid cb recv m to).next t (gotRow r)).next t2 cpls2 = .done (some (.callback S_CREATED p c))) :
    cpls2 = [.store [.rows 1]] := by
  change Co.next (if (r.toPromise.state == P_PENDING) = true then _ else _) t2 cpls2 = _ at h
  by_cases hp : (r.toPromise.state == P_PENDING) = true
  · rw [if_pos hp] at h
    exact rowsK_one (show rowsK _ _ _ cpls2 = _ from h) nofun (fun _ => nofun) nofun
  · rw [if_neg hp] at h; cases h

/-- … and then the registration row, with the requested id, awaited promise, receiver and message, is in the database -/
theorem registered_callback_is_stored (d : Dialect) (db db' : Db) (c : CreateCallbackCmd) (n : Nat)
    (h : db.exec (defs d) (.createCallback c) = .ok (db', .rows n)) (hn : n ≠ 0) :
    ∃ r ∈ db'.callbacks, r.id = c.id ∧ r.promiseId = c.promiseId ∧ r.recv = c.recv ∧ r.mesg = c.mesg ∧ r.timeout = c.timeout := by
  rcases ite_ok_eq_ok.mp h with ⟨_, h⟩ | ⟨_, h⟩ <;> cases h
  · exact ⟨(defs d).callbackInsert_row c, by simp, rfl, rfl, rfl, rfl, rfl⟩
  · exact absurd rfl hn

/-- **claim / task completion, acknowledged ⇒ stored.** A claim goes on to read the attached promises (and then
    answers `201`) only on a result reporting exactly one updated task row … -/
theorem claim_proceeds_only_on_row (env : Env) (req : ClaimTaskReq) (t0 t t2 : Time) (r : TaskRow) (cpls2 : List Cpl)
    (subs : List Subm) (k : Time → List Cpl → Co)
    (h : ((claimTask env req t0).next t [.store [.tasks [r]]]).next t2 cpls2 = .yield subs k) : cpls2 = [.store [.rows 1]] := by
  unfold claimTask at h
  by_cases hp : (req.processId == "") = true
  · rw [if_pos hp] at h; cases h
  rw [if_neg hp] at h
  by_cases httl : req.ttl < 0
  · rw [if_pos httl] at h; cases h
  rw [if_neg httl] at h
  -- already claimed, already finished, wrong counter: each ends the coroutine, which then never yields (`next_ite_neg`)
  replace h := next_ite_neg h nofun
  replace h := next_ite_neg h nofun
  replace h := next_ite_neg h nofun
  exact rowsK_one (show rowsK _ _ _ cpls2 = _ from h) nofun (fun _ => nofun) nofun

/-- … and whenever a task update reports an updated row, the task row with that id carries the commanded state,
    holder, lease and counter after the transaction -/
theorem updated_task_is_stored (d : Dialect) (db db' : Db) (c : UpdateTaskCmd) (n : Nat)
    (h : db.exec (defs d) (.updateTask c) = .ok (db', .rows n)) (hn : n ≠ 0) :
    ∃ r ∈ db'.tasks, r.id = c.id ∧ r.state = c.state ∧ r.processId = c.processId ∧ r.ttl = c.ttl ∧
      r.expiresAt = c.expiresAt ∧ r.counter = c.counter ∧ r.completedOn = c.completedOn := by
  obtain ⟨ht, hr⟩ := exec_updateTask h
  have hpos : 0 < countP ((defs d).taskUpdate_where c) db.tasks := Res.rows.inj hr ▸ Nat.pos_of_ne_zero hn
  obtain ⟨r, _, hp, hmem⟩ := updated_mem_of_countP_pos ((defs d).taskUpdate_set c) hpos
  exact ⟨(defs d).taskUpdate_set c r, ht ▸ hmem, ((taskUpdate_where_iff c r).mp hp).1, rfl, rfl, rfl, rfl, rfl, rfl⟩

/-- **task completion, acknowledged ⇒ stored.** `201` is answered only on a result reporting exactly one updated row … -/
theorem task_completion_ack_needs_row (id : String) (counter : Int) (t0 t t2 : Time) (r : TaskRow) (cpls2 : List Cpl) (tk : Option Task)
    (h : ((completeTask id counter t0).next t [.store [.tasks [r]]]).next t2 cpls2 = .done (some (.task S_CREATED tk))) :
    cpls2 = [.store [.rows 1]] := by
  -- already finished, not claimed, wrong counter: each answers at once with another status (`next_ite_neg`)
  replace h := next_ite_neg h nofun
  replace h := next_ite_neg h nofun
  replace h := next_ite_neg h nofun
  exact rowsK_one (show rowsK _ _ _ cpls2 = _ from h) nofun (fun _ => nofun) nofun

/-- … the transaction it answers for is the guarded update to `completed` (claimed, same counter), so by
    `updated_task_is_stored` the task row is completed, holder and lease cleared, when the `201` is sent -/
theorem task_completion_submits (id : String) (counter : Int) (t0 t : Time) (r : TaskRow)
    (h1 : (r.toTask.state == T_COMPLETED || r.toTask.state == T_TIMEDOUT) = false)
    (h2 : (r.toTask.state == T_INIT || r.toTask.state == T_ENQUEUED) = false) (h3 : (r.toTask.counter != counter) = false) :
    ((completeTask id counter t0).next t [.store [.tasks [r]]]).subs =
      [.store [.updateTask { id := id, processId := none, state := T_COMPLETED, counter := counter, attempt := 0, ttl := 0, expiresAt := 0,
                             completedOn := some t, currentStates := [T_CLAIMED], currentCounter := counter }]] := by
  change Co.subs (if (r.toTask.state == T_COMPLETED || r.toTask.state == T_TIMEDOUT) = true then _
    else if (r.toTask.state == T_INIT || r.toTask.state == T_ENQUEUED) = true then _ else if (r.toTask.counter != counter) = true then _ else _) = _
  rw [h1, h2, h3]
  rfl

/-- **heartbeat, acknowledged ⇒ stored.** The count a heartbeat is answered with is the result of its one transaction … -/
theorem heartbeat_ack_is_the_result (pid : String) (t0 t : Time) (cpls : List Cpl) (n : Nat)
    (h : (heartbeatTasks pid t0).next t cpls = .done (some (.count S_OK n))) : cpls = [.store [.rows n]] := by
  unfold heartbeatTasks at h
  simp only [Co.next] at h
  split at h
  · simp [errResp] at h
  · rename_i m
    simp only [Co.done.injEq, Option.some.injEq, Resp.count.injEq, true_and] at h
    subst h; rfl
  · cases h

/-- … and that result counts exactly the tasks claimed by the process, each of which carries the renewed lease
    `heartbeat time + its ttl` after the transaction; no other task row changes -/
theorem heartbeat_rows_are_renewed (d : Dialect) (db db' : Db) (c : HeartbeatTasksCmd) (n : Nat)
    (h : db.exec (defs d) (.heartbeatTasks c) = .ok (db', .rows n)) :
    n = countP (fun r : TaskRow => sqlEqO r.processId (some c.processId) && r.state == 4) db.tasks ∧
    db'.tasks = db.tasks.map (fun r => if sqlEqO r.processId (some c.processId) && r.state == 4 then { r with expiresAt := c.time + r.ttl } else r) := by
  cases h
  exact ⟨rfl, rfl⟩

/-! ### all or nothing -/

/-- a creation writes the promise and, if it routes, its task in ONE command of ONE transaction -/
theorem creation_is_one_transaction (pc : CreatePromiseCmd) (ft : Option CreateTaskCmd) (k : ChildOut → Co) :
    (childStore pc ft [] k).subs = [.store [childCmd pc ft]] := C08.childStore_is_one_transaction pc ft k

/-- a completion updates the promise, finishes its tasks, turns every registration into a task and deletes the
    registrations in ONE transaction -/
theorem completion_is_one_transaction (cmd : UpdatePromiseCmd) (t : Time) :
    completeTx cmd t = [.updatePromise cmd, .completeTasks ⟨cmd.id, t⟩, .createTasks ⟨cmd.id, t⟩, .deleteCallbacks ⟨cmd.id⟩] := rfl

/-- and a transaction (indeed a whole batch) is applied entirely or not at all: after a failure at any position the
    database is the one before the batch -/
theorem batch_all_or_nothing (g : SqlDefs) (db : Db) (txs : List (List Cmd)) (e : StoreErr)
    (h : (db.execBatch g txs).2 = .error e) : (db.execBatch g txs).1 = db := C16.execBatch_error_atomic g db txs e h

/-- between two store batches nothing is written: every other kernel step leaves the database untouched, so a crash
    can fall only BETWEEN committed batches, never inside one -/
theorem only_batches_write (s : Sys) (c : Choice) (h : ∀ items, c ≠ .execStore items) : (s.step c).1.db = s.db :=
  (step_db s c).resolve_right fun ⟨items, hc, _⟩ => h items hc

end Resonate.C06
