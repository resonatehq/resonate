/-
  Properties/C16.lean — store commands are conditional writes; batches are ordered and atomic.
  Stated over `SqlSpec.defs d` for BOTH dialects (`d` universally quantified); tied to /repo's SQL
  by Proofs/Tie.lean (regenerated on every run) and to the running sqlite store by `storediff`.
-/
import Resonate.Model.SqlSpec
import Resonate.Proofs.StoreBasics
import Resonate.Proofs.Lift
import Resonate.Proofs.Frame
import Resonate.Proofs.Guards
namespace Resonate.C16
open SqlSpec

variable (d : Dialect)

/-! ### create only if absent -/

theorem createPromise_present (db : Db) (c : CreatePromiseCmd) (h : ∃ r ∈ db.promises, r.id = c.id) :
    db.exec (defs d) (.createPromise c) = .ok ({ db with seqP := db.seqP + 1 }, .rows 0) := by
  simp only [Db.exec, Db.createPromise_present _ db c h]

theorem createPromise_absent (db : Db) (c : CreatePromiseCmd) (h : ∀ r ∈ db.promises, r.id ≠ c.id) :
    db.exec (defs d) (.createPromise c) =
      .ok ({ db with promises := db.promises ++ [promiseInsert_row c (db.seqP + 1)], seqP := db.seqP + 1 }, .rows 1) := by
  simp only [Db.exec, Db.createPromise_absent _ db c h]; rfl

/-- the inserted promise is pending and carries the request's fields verbatim -/
theorem createPromise_row (c : CreatePromiseCmd) (n : Nat) :
    let r := promiseInsert_row c n
    r.id = c.id ∧ r.state = 1 ∧ r.paramHeaders = c.param.headers ∧ r.paramData = c.param.data ∧ r.timeout = c.timeout ∧
    r.idempotencyKeyForCreate = c.idempotencyKey ∧ r.tags = c.tags ∧ r.createdOn = some c.createdOn ∧
    r.valueHeaders = none ∧ r.valueData = none ∧ r.idempotencyKeyForComplete = none ∧ r.completedOn = none ∧ r.sortId = n := by
  simp [promiseInsert_row]

/-! ### complete only if pending; reported rows = rows changed -/

/-- the complete effect of `UpdatePromise`, stated outright -/
theorem updatePromise_spec (db : Db) (c : UpdatePromiseCmd) (hs : promiseStateOk c.state = true) :
    db.exec (defs d) (.updatePromise c) =
      .ok ({ db with promises := db.promises.map fun r =>
                if r.id == c.id && r.state == 1 then
                  { r with state := c.state, valueHeaders := some c.value.headers, valueData := some c.value.data,
                           idempotencyKeyForComplete := c.idempotencyKey, completedOn := some c.completedOn }
                else r },
           .rows ((db.promises.filter fun r => r.id == c.id && r.state == 1).length)) :=
  -- the clause of `Db.exec` is `if !promiseStateOk c.state then .error … else .ok (updateWhere WHERE SET …, countP WHERE …)`; its
  -- else-branch is the right-hand side once `promiseUpdate_where` / `_set`, `updateWhere`, `countP` are unfolded, which `if_neg` does
  if_neg (by simp [hs])

/-- a row that is not a pending row with the addressed id is left untouched -/
theorem updatePromise_untouched (db db' : Db) (c : UpdatePromiseCmd) (res : Res)
    (h : db.exec (defs d) (.updatePromise c) = .ok (db', res)) (r : PromiseRow) (hr : r ∈ db.promises)
    (hn : ¬ (r.id = c.id ∧ r.state = 1)) : r ∈ db'.promises := by
  rw [(exec_updatePromise h).2.1]
  exact (mem_updateWhere ..).mpr ⟨r, hr, .inr ⟨Bool.eq_false_iff.mpr fun hw => hn ((promiseUpdate_where_iff c r).mp hw), rfl⟩⟩

/-! ### a callback is registered only on a pending promise and only once -/

theorem createCallback_spec (db : Db) (c : CreateCallbackCmd) :
    db.exec (defs d) (.createCallback c) =
      if (∃ p ∈ db.promises, p.id = c.promiseId ∧ p.state = 1) ∧ (∀ cb ∈ db.callbacks, cb.id ≠ c.id) then
        .ok ({ db with callbacks := db.callbacks ++ [callbackInsert_row c] }, .rows 1)
      else .ok (db, .rows 0) :=
  ite_congr (propext (callbackInsert_guard_iff d c db)) (fun _ => rfl) (fun _ => rfl)

theorem createCallback_row (c : CreateCallbackCmd) :
    callbackInsert_row c = { id := c.id, promiseId := c.promiseId, rootPromiseId := c.mesg.root, recv := c.recv,
                             mesg := c.mesg, timeout := c.timeout, createdOn := c.createdOn } := rfl

/-! ### a task is updated only if its state and counter match -/

theorem updateTask_spec (db : Db) (c : UpdateTaskCmd) (hs : c.currentStates ≠ []) :
    db.exec (defs d) (.updateTask c) =
      .ok ({ db with tasks := db.tasks.map fun r =>
                if r.id == c.id && r.state &&& maskOf c.currentStates != 0 && r.counter == c.currentCounter then
                  { r with processId := c.processId, state := c.state, counter := c.counter, attempt := c.attempt,
                           ttl := c.ttl, expiresAt := c.expiresAt, completedOn := c.completedOn }
                else r },
           .rows ((db.tasks.filter fun r => r.id == c.id && r.state &&& maskOf c.currentStates != 0 && r.counter == c.currentCounter).length)) :=
  -- as `updatePromise_spec`, the guard being `c.currentStates.isEmpty`
  if_neg (by simpa using hs)

/-! ### a lock is acquired only if free or held by the same execution -/

theorem acquireLock_free (db : Db) (c : AcquireLockCmd) (h : ∀ r ∈ db.locks, r.resourceId ≠ c.resourceId) :
    db.exec (defs d) (.acquireLock c) =
      .ok ({ db with locks := db.locks ++ [{ resourceId := c.resourceId, executionId := c.executionId,
                                             processId := c.processId, ttl := c.ttl, expiresAt := c.expiresAt }] }, .rows 1) :=
  -- the clause of `Db.exec` is "conflict UPDATE if the resource has a row, else insert": here the else-branch, by unfolding …
  if_neg (not_any_key.mpr h)

theorem acquireLock_held (db : Db) (c : AcquireLockCmd) (h : ∃ r ∈ db.locks, r.resourceId = c.resourceId) :
    db.exec (defs d) (.acquireLock c) =
      .ok ({ db with locks := db.locks.map fun r =>
                if r.resourceId == c.resourceId && r.executionId == c.executionId then
                  { r with processId := c.processId, ttl := c.ttl, expiresAt := c.expiresAt }
                else r },
           .rows ((db.locks.filter fun r => r.resourceId == c.resourceId && r.executionId == c.executionId).length)) :=
  -- … and here the then-branch
  if_pos (any_key.mpr h)

/-- hence: an acquire by a different execution leaves an existing lock row exactly as it was -/
theorem acquireLock_other_execution (db db' : Db) (c : AcquireLockCmd) (res : Res) (r : LockRow)
    (hr : r ∈ db.locks) (hres : r.resourceId = c.resourceId) (hex : r.executionId ≠ c.executionId)
    (h : db.exec (defs d) (.acquireLock c) = .ok (db', res)) : r ∈ db'.locks := by
  rw [acquireLock_held d db c ⟨r, hr, hres⟩] at h
  cases h
  exact List.mem_map.mpr ⟨r, hr, by simp [hex]⟩

/-! ### transactions are applied in submission order; batches are all-or-nothing -/

theorem execTx_nil (db : Db) : db.execTx (defs d) [] = .ok (db, []) := rfl

theorem execTx_cons (db : Db) (c : Cmd) (cs : List Cmd) :
    db.execTx (defs d) (c :: cs) =
      match db.exec (defs d) c with
      | .error e => .error e
      | .ok (db1, r) => match db1.execTx (defs d) cs with
        | .error e => .error e
        | .ok (db2, rs) => .ok (db2, r :: rs) := rfl

/-- one result per command -/
theorem execTx_results_length (g : SqlDefs) (db db' : Db) (cs : List Cmd) (rs : List Res)
    (h : db.execTx g cs = .ok (db', rs)) : rs.length = cs.length := by
  induction db, cs, db', rs, h using execTx_induct with
  | nil => rfl
  | cons _ _ ih => simp [ih]

/-- one result list per submission, in submission order (`results[i]` belongs to submission `i`) -/
theorem execTxs_results_length (g : SqlDefs) (db db' : Db) (txs : List (List Cmd)) (rss : List (List Res))
    (h : db.execTxs g txs = .ok (db', rss)) :
    rss.length = txs.length ∧ ∀ i (hi : i < rss.length) (hj : i < txs.length), (rss[i]).length = (txs[i]).length := by
  induction db, txs, db', rss, h using execTxs_induct with
  | nil => simp
  | cons _ h1 _ ih =>
    refine ⟨by simp [ih.1], fun i hi hj => ?_⟩
    cases i with
    | zero => simpa using execTx_results_length g _ _ _ _ h1
    | succ i => simpa using ih.2 i (by simpa using hi) (by simpa using hj)

/-- a failing command at ANY position of ANY transaction of the batch leaves the database unchanged
    and every submission gets the error -/
theorem execBatch_error_atomic (g : SqlDefs) (db : Db) (txs : List (List Cmd)) (e : StoreErr)
    (h : (db.execBatch g txs).2 = .error e) : (db.execBatch g txs).1 = db := by
  unfold Db.execBatch at *
  split at h
  · cases h
  · rfl

theorem execBatch_ok (g : SqlDefs) (db db' : Db) (txs : List (List Cmd)) (rss : List (List Res))
    (h : db.execTxs g txs = .ok (db', rss)) : db.execBatch g txs = (db', .ok rss) := by
  simp [Db.execBatch, h]

/-- the batch is the sequential composition of its transactions: splitting a batch in two
    successful halves gives the same final state and results -/
theorem execTxs_append (g : SqlDefs) (db : Db) (a b : List (List Cmd)) :
    db.execTxs g (a ++ b) =
      match db.execTxs g a with
      | .error e => .error e
      | .ok (db1, ra) => match db1.execTxs g b with
        | .error e => .error e
        | .ok (db2, rb) => .ok (db2, ra ++ rb) := by
  induction a generalizing db with
  | nil =>
    simp only [List.nil_append, Db.execTxs]
    rcases db.execTxs g b with e | ⟨db2, rb⟩ <;> rfl
  | cons tx a ih =>
    simp only [List.cons_append, Db.execTxs, ih]
    split
    · rfl
    · rcases db.execTx g tx with e | ⟨db1, rs⟩
      · rfl
      · dsimp only
        rcases db1.execTxs g a with e | ⟨db2, ra⟩
        · rfl
        · dsimp only
          rcases db2.execTxs g b with e | ⟨db3, rb⟩ <;> rfl

/-! ### non-vacuity -/

def exRow : PromiseRow := { id := "a", sortId := 1, state := 1, paramHeaders := [], paramData := "", valueHeaders := none, valueData := none, timeout := 10, idempotencyKeyForCreate := none, idempotencyKeyForComplete := none, tags := [], createdOn := some 0, completedOn := none }
def exDb : Db := { promises := [exRow], seqP := 1 }

example : ∃ r ∈ exDb.promises, r.id = "a" := ⟨_, List.mem_cons_self, rfl⟩
example : (exDb.exec (defs .sqlite) (.updatePromise { id := "a", state := 2, value := {}, idempotencyKey := none, completedOn := 5 })).toOption.map (·.2)
    = some (.rows 1) := by decide
example : (exDb.execBatch (defs .sqlite) [[.createPromise { id := "b", param := {}, timeout := 1, idempotencyKey := none, tags := [], createdOn := 0 }],
      [.updatePromise { id := "a", state := 3, value := {}, idempotencyKey := none, completedOn := 5 }]]).1 = exDb := by decide

end Resonate.C16
