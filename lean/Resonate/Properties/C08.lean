/-
  Properties/C08.lean — tasks are born and finished with their promise; dispatch is disciplined.
-/
import Resonate.Proofs.CoSteps
import Resonate.Proofs.Frame
import Resonate.Proofs.StoreBasics
import Resonate.Proofs.TaskInv
import Resonate.Model.SqlSpec
namespace Resonate.C08
open Coro SqlSpec

variable (d : Dialect)

/-! ### born together: one command, one transaction -/

/-- `CreatePromiseAndTask` on a fresh promise id whose task id is free inserts BOTH rows (the task with the
    given receiver, message, state and root = the promise id); on an existing promise id it inserts NEITHER
    (`C03.createPromiseAndTask_existing`) -/
theorem born_together (db : Db) (c : CreatePromiseAndTaskCmd) (hstate : c.taskCommand.state = 1 ∨ (c.taskCommand.state = 4 ∧ c.taskCommand.processId.isSome = true))
    (hp : ∀ r ∈ db.promises, r.id ≠ c.promiseCommand.id) (ht : ∀ t ∈ db.tasks, t.id ≠ c.taskCommand.id) :
    db.exec (defs d) (.createPromiseAndTask c) =
      .ok ({ db with promises := db.promises ++ [promiseInsert_row c.promiseCommand (db.seqP + 1)], seqP := db.seqP + 1,
                     tasks := db.tasks ++ [taskInsert_row c.taskCommand (db.seqT + 1)], seqT := db.seqT + 1 }, .rows2 1 1) := by
  -- the promise is inserted (one row), so `createTask` runs, past its assertions, on a table without the task's id
  have hst : c.taskCommand.state = 1 ∨ c.taskCommand.state = 4 := hstate.imp_right And.left
  have hpid : c.taskCommand.state = 4 → c.taskCommand.processId.isSome = true := fun h4 => (hstate.resolve_left (by omega)).2
  rw [Db.exec, Db.createPromise_absent _ db _ hp]
  dsimp only
  -- `if_neg (by decide)`: the promise insert reported `1`, not `0` rows
  rw [if_neg (by decide), Db.createTask_valid _ _ hst hpid, if_neg (not_any_key.mpr ht)]
  rfl

/-- the inserted task is addressed at the promise: root = message root, counter 1, attempt 0 -/
theorem task_row (c : CreateTaskCmd) (n : Nat) :
    (taskInsert_row c n).rootPromiseId = c.mesg.root ∧ (taskInsert_row c n).recv = c.recv ∧ (taskInsert_row c n).counter = 1 ∧
    (taskInsert_row c n).attempt = 0 ∧ (taskInsert_row c n).state = c.state ∧ (taskInsert_row c n).id = c.id := ⟨rfl, rfl, rfl, rfl, rfl, rfl⟩

/-- the coroutine side: what is written for a fresh promise depends only on the router's answer —
    matched ⇒ exactly one `CreatePromiseAndTask` (task `__invoke:<id>`, state init, recv = the router's), in ONE transaction;
    unmatched ⇒ a bare `CreatePromise`; router failure ⇒ NOTHING is written and the request fails -/
theorem child_matched (pc : CreatePromiseCmd) (recv : String) (k : ChildOut → Co) (t : Time) :
    (createPromiseChild pc none [] k).next t [.router true recv] =
      childStore pc (some { id := invokeId pc.id, recv := recv, mesg := { type := "invoke", root := pc.id, leaf := pc.id }, timeout := pc.timeout, processId := none, state := T_INIT, ttl := 0, expiresAt := 0, createdOn := pc.createdOn }) [] k :=
  createPromiseChild_routed pc none [] k t rfl rfl

theorem child_unmatched (pc : CreatePromiseCmd) (recv : String) (k : ChildOut → Co) (t : Time) :
    (createPromiseChild pc none [] k).next t [.router false recv] = childStore pc none [] k :=
  createPromiseChild_routed pc none [] k t rfl rfl

theorem child_router_failed (pc : CreatePromiseCmd) (tc : Option CreateTaskCmd) (k : ChildOut → Co) (t : Time) :
    (createPromiseChild pc tc [] k).next t [.err] = k (.error S_AIO_MATCH) := rfl

/-- create-with-task on a promise the router does not match is refused rather than half-done: no store write -/
theorem create_with_task_unrouted_refused (pc : CreatePromiseCmd) (tc : CreateTaskCmd) (recv : String) (k : ChildOut → Co) (t : Time) :
    (createPromiseChild pc (some tc) [] k).next t [.router false recv] = k (.error S_PROMISE_RECV_NOT_FOUND) := rfl

theorem childStore_is_one_transaction (pc : CreatePromiseCmd) (ft : Option CreateTaskCmd) (k : ChildOut → Co) :
    (childStore pc ft [] k).subs = [.store [childCmd pc ft]] := rfl

/-! ### finished together -/

/-- the completion block finishes, in the same transaction, every live task whose root is the completed
    promise (they are `completed` afterwards — and by C07 can never be claimed again) -/
theorem finished_together (db db' : Db) (c : UpdatePromiseCmd) (t1 t2 : Int) (rs : List Res)
    (h : db.execTx (defs d) [.updatePromise c, .completeTasks ⟨c.id, t1⟩, .createTasks ⟨c.id, t2⟩, .deleteCallbacks ⟨c.id⟩] = .ok (db', rs)) :
    ∀ (i : Nat) (tk : TaskRow), db.tasks[i]? = some tk → tk.rootPromiseId = c.id → (tk.state = 1 ∨ tk.state = 2 ∨ tk.state = 4) →
      db'.tasks[i]? = some { tk with state := 8, completedOn := some t1 } := by
  obtain ⟨_, _, s, n, hins, _⟩ := completeBlock_ok h
  intro i tk hi hroot hlive
  -- the UPDATE by root finishes the task at `i`; `TASK_INSERT_ALL` only appends to the table
  have hw : (defs d).taskCompleteByRootId_where ⟨c.id, t1⟩ tk = true := by
    simp only [defs, taskCompleteByRootId_where, Bool.and_eq_true, beq_iff_eq, Bool.or_eq_true]
    exact ⟨hroot, by rcases hlive with h | h | h <;> simp [h]⟩
  have h2 : (updateWhere ((defs d).taskCompleteByRootId_where ⟨c.id, t1⟩) ((defs d).taskCompleteByRootId_set ⟨c.id, t1⟩) db.tasks)[i]? =
      some { tk with state := 8, completedOn := some t1 } := by
    simp only [updateWhere, List.getElem?_map, hi, Option.map_some, hw, if_true]; rfl
  obtain ⟨_, extra, he, _⟩ := insertTasksFrom_ok hins
  rw [he, List.getElem?_append_left (List.getElem?_eq_some_iff.mp h2).1]
  exact h2

/-! ### dispatch selects only what may be dispatched (regenerated guard) -/

/-- the enqueueable query's guard: the task is `init` and no task of the same root is enqueued or claimed -/
theorem enqueueable_guard (c : ReadEnqueueableTasksCmd) (db : Db) (r : TaskRow) :
    taskSelectEnqueueable_where c db r = true ↔
      (r.state = 1 ∧ ∀ r2 ∈ db.tasks, r2.rootPromiseId = r.rootPromiseId → (r2.state ≠ 2 ∧ r2.state ≠ 4)) := by
  simp only [taskSelectEnqueueable_where, Bool.and_eq_true, beq_iff_eq, Bool.not_eq_true', List.any_eq_false, Bool.or_eq_true, not_and, not_or]

theorem firstPerRoot_sublist (l : List TaskRow) : (firstPerRoot l).Sublist l := by
  fun_induction firstPerRoot l with
  | case1 => exact .slnil
  | case2 t rest ih =>
    -- the hypothesis comes over `rest.attach`, as the termination proof of `firstPerRoot` left it
    simp only [List.unattach_filter, List.unattach_attach] at ih
    exact (ih.trans List.filter_sublist).cons_cons t

/-- `firstPerRoot` keeps at most one task per root promise -/
theorem firstPerRoot_pairwise (l : List TaskRow) : (firstPerRoot l).Pairwise (fun a b => a.rootPromiseId ≠ b.rootPromiseId) := by
  fun_induction firstPerRoot l with
  | case1 => exact .nil
  | case2 t rest ih =>
    simp only [List.unattach_filter, List.unattach_attach] at ih
    refine List.pairwise_cons.mpr ⟨fun b hb => ?_, ih⟩
    exact Ne.symm (bne_iff_ne.mp (List.mem_filter.mp ((firstPerRoot_sublist _).subset hb)).2)

/-- **what a dispatch cycle reads**: only tasks that are init, whose root has no enqueued/claimed task, at
    most one per root, at most `limit` -/
theorem dispatch_selection (db : Db) (c : ReadEnqueueableTasksCmd) (rows : List TaskRow) (hl : 0 ≤ c.limit)
    (h : db.exec (defs d) (.readEnqueueableTasks c) = .ok (db, .tasks rows)) :
    rows.length ≤ c.limit.toNat ∧
    (∀ r ∈ rows, ∃ r0 ∈ db.tasks, r = taskSelectEnqueueable_proj r0 ∧ r0.state = 1 ∧
        ∀ r2 ∈ db.tasks, r2.rootPromiseId = r0.rootPromiseId → (r2.state ≠ 2 ∧ r2.state ≠ 4)) ∧
    rows.Pairwise (fun a b => a.rootPromiseId ≠ b.rootPromiseId) := by
  injection exec_res h with hr
  subst hr
  have hnl : ¬ c.limit < 0 := Int.not_lt.mpr hl
  simp only [defs, taskSelectEnqueueable_limit, takeLimit, hnl, if_false]
  -- the rows are projections of a prefix of `firstPerRoot` of the sorted selection
  have hsub := (List.take_sublist c.limit.toNat _).trans
    (firstPerRoot_sublist ((db.tasks.filter (taskSelectEnqueueable_where c db)).mergeSort taskOrdLe))
  refine ⟨(List.length_map _).symm ▸ List.length_take_le _ _, fun r hrm => ?_, ?_⟩
  · obtain ⟨r0, hm, hw, rfl⟩ := mem_select (fun y hy => List.mem_mergeSort.mp (hsub.subset hy)) hrm
    exact ⟨r0, hm, rfl, (enqueueable_guard c db r0).mp hw⟩
  · exact List.pairwise_map.mpr ((firstPerRoot_pairwise _).sublist (List.take_sublist _ _))

/-! ### hand-off outcomes (decision logic, all cases) -/

/-- enqueued ONLY after a successful hand-off; a failed or errored hand-off leaves the task init with
    `attempt + 1` (retried); a notification is finished after its first attempt whatever the outcome; every
    update is guarded by `init` and by the counter that was read -/
theorem handoff_outcome (e : Int) (r : TaskRow) (o : Cpl) :
    ∃ u : UpdateTaskCmd, enqueueOutcomeCmd e r o = .updateTask u ∧ u.id = r.id ∧ u.currentStates = [T_INIT] ∧ u.currentCounter = r.counter ∧
      u.counter = r.counter ∧
      (r.mesg.type = "notify" → u.state = T_COMPLETED) ∧
      (r.mesg.type ≠ "notify" → o = .sender true → u.state = T_ENQUEUED ∧ u.attempt = r.attempt) ∧
      (r.mesg.type ≠ "notify" → o ≠ .sender true → u.state = T_INIT ∧ u.attempt = r.attempt + 1) := by
  unfold enqueueOutcomeCmd
  by_cases hn : r.mesg.type = "notify"
  · simp [hn]
  · by_cases ho : o = .sender true
    · subst ho; simp [hn]
    · simp [hn, ho]

/-- the dispatched message names exactly the task that was read: its id, its counter, and claim / complete /
    heartbeat links for that id and counter under the configured URL; a notification carries the promise that was read -/
theorem message_names_task (env : Env) (e : Int) (r : TaskRow) (pr : Res) :
    let m := senderReqOf env e r pr
    m.task.id = r.id ∧ m.task.counter = r.counter ∧ m.task.recv = r.recv ∧ m.task.mesg = r.mesg ∧
    m.claimHref = env.cfg.url ++ "/tasks/claim/" ++ r.id ++ "/" ++ toString r.counter ∧
    m.completeHref = env.cfg.url ++ "/tasks/complete/" ++ r.id ++ "/" ++ toString r.counter ∧
    m.heartbeatHref = env.cfg.url ++ "/tasks/heartbeat/" ++ r.id ++ "/" ++ toString r.counter ∧
    (∀ row rest, pr = .promises (row :: rest) → m.promise = some row.toPromise) := by
  refine ⟨rfl, rfl, rfl, rfl, rfl, rfl, rfl, ?_⟩
  intro row rest h; subst h; rfl

/-! ### non-vacuity -/
example : (childStore { id := "p", param := {}, timeout := 1, idempotencyKey := none, tags := [], createdOn := 0 } none [] (fun _ => .retry)).subs.length = 1 := rfl

end Resonate.C08
