/-
  Properties/C03.lean — create and complete are idempotent under retries; at most one takes effect.
  Decision tables stated outright (every key combination × strict × state × clock position) and the
  store facts that make repeats harmless.
-/
import Resonate.Proofs.CoSteps
import Resonate.Proofs.PromIds
import Resonate.Model.SqlSpec
import Resonate.Proofs.StoreBasics
import Resonate.Proofs.PromiseInv
import Resonate.Proofs.SysDb
import Resonate.Properties.C16
namespace Resonate.C03
open Coro SqlSpec

/-! ### keys match only when both are present and equal -/
theorem keyMatch_none_left (k : Option String) : keyMatch none k = false := by cases k <;> rfl
theorem keyMatch_none_right (k : Option String) : keyMatch k none = false := by cases k <;> rfl
theorem keyMatch_some (a b : String) : keyMatch (some a) (some b) = (a == b) := rfl

/-! ### CreatePromise / CreatePromiseAndTask on an existing promise -/

/-- the promise exists and is not overdue: nothing is written; the answer is OK with the promise as it
    stands iff the request carries the creation key (and, in strict mode, the promise is still pending);
    otherwise already-exists -/
theorem create_existing (req : CreatePromiseReq) (tc : Option CreateTaskCmd) (t0 t : Time) (r : PromiseRow)
    (hn : ¬ (r.state = 1 ∧ r.timeout ≤ t)) :
    (createPromiseInner req tc false t0).next t (gotRow r) =
      .done (some (.promise
        (if !(req.strict && r.state != 1) && keyMatch r.idempotencyKeyForCreate req.idempotencyKey then S_OK else S_PROMISE_ALREADY_EXISTS)
        (some r.toPromise))) := createPromiseInner_existing req tc false t0 t r hn

/-- same table for create-with-task; in particular a repeat never yields a task object -/
theorem create_task_existing (req : CreatePromiseReq) (tc : Option CreateTaskCmd) (t0 t : Time) (r : PromiseRow)
    (hn : ¬ (r.state = 1 ∧ r.timeout ≤ t)) :
    (createPromiseInner req tc true t0).next t (gotRow r) =
      .done (some (.promiseTask
        (if !(req.strict && r.state != 1) && keyMatch r.idempotencyKeyForCreate req.idempotencyKey then S_OK else S_PROMISE_ALREADY_EXISTS)
        (some r.toPromise) none)) := createPromiseInner_existing req tc true t0 t r hn

/-- the promise exists, is pending and overdue: the ONLY write a repeat may cause is the time-out
    completion; afterwards OK iff non-strict and keys match, the body being the timed-out promise -/
theorem create_existing_overdue (req : CreatePromiseReq) (tc : Option CreateTaskCmd) (t0 t : Time) (r : PromiseRow)
    (hs : r.state = 1) (ht : r.timeout ≤ t) :
    ∃ k, (createPromiseInner req tc false t0).next t (gotRow r) = .yield [.store (completeTx (timeoutCmd req.id r.toPromise) t)] k ∧
      ∀ t2 n c, k t2 (blockDone 1 n c) = .done (some (.promise
        (if !req.strict && keyMatch r.idempotencyKeyForCreate req.idempotencyKey then S_OK else S_PROMISE_ALREADY_EXISTS)
        (some (withCompleted r.toPromise (timeoutCmd req.id r.toPromise))))) := createPromiseInner_overdue req tc false t0 t r hs ht

/-! ### CompletePromise on an already completed promise -/

theorem alreadyCompleted_table :
    alreadyCompletedStatus 2 = some S_PROMISE_ALREADY_RESOLVED ∧ alreadyCompletedStatus 4 = some S_PROMISE_ALREADY_REJECTED ∧
    alreadyCompletedStatus 8 = some S_PROMISE_ALREADY_CANCELED ∧ alreadyCompletedStatus 16 = some S_PROMISE_ALREADY_TIMEDOUT := by decide

/-- a completed promise is never changed by a completion request: no write at all; OK iff the request carries
    the completion key (and, in strict mode, asks for the state the promise is in) — or the promise timed out
    and the request is non-strict; otherwise the already-<state> status -/
theorem complete_completed (req : CompletePromiseReq) (t0 t : Time) (r : PromiseRow) (st : Nat)
    (hs : r.state ≠ 1) (hst : alreadyCompletedStatus r.state = some st) :
    (completePromise req t0).next t (gotRow r) =
      .done (some (.promise
        (if (!(req.strict && r.state != req.state) && keyMatch r.idempotencyKeyForComplete req.idempotencyKey)
              || (!req.strict && r.state == P_TIMEDOUT) then S_OK else st)
        (some r.toPromise))) := by
  change (if (r.toPromise.state == P_PENDING) = true then _ else _) = _
  have hnp : ¬ (r.toPromise.state == P_PENDING) = true := fun h => hs (eq_of_beq h)
  have hst' : alreadyCompletedStatus r.toPromise.state = some st := hst
  rw [if_neg hnp, hst']
  rfl

/-- an unknown promise cannot be completed -/
theorem complete_missing (req : CompletePromiseReq) (t0 t : Time) :
    (completePromise req t0).next t gotNone = .done (some (.promise S_PROMISE_NOT_FOUND none)) := rfl

/-! ### store: repeats change nothing -/

/-- creating over an existing id inserts neither a promise nor a task -/
theorem createPromiseAndTask_existing (d : Dialect) (db : Db) (c : CreatePromiseAndTaskCmd)
    (h : ∃ r ∈ db.promises, r.id = c.promiseCommand.id) :
    ∃ db', db.exec (defs d) (.createPromiseAndTask c) = .ok (db', .rows2 0 0) ∧ db'.promises = db.promises ∧ db'.tasks = db.tasks ∧
      db'.callbacks = db.callbacks := by
  simp only [Db.exec, Db.createPromise_present _ db _ h]
  exact ⟨_, rfl, rfl, rfl, rfl⟩

/-- a completion takes effect (reports a row) only on a pending promise, and after it no promise with that
    id is pending any more — so, ids being unique and completed rows final (C01), a second completion of the
    same id can never report a row: at most one completion per promise id ever takes effect -/
theorem completion_takes_effect_once (d : Dialect) (db db' : Db) (c : UpdatePromiseCmd) (n : Nat)
    (h : db.exec (defs d) (.updatePromise c) = .ok (db', .rows n)) :
    (0 < n → ∃ r ∈ db.promises, r.id = c.id ∧ r.state = 1) ∧ (∀ r ∈ db'.promises, r.id = c.id → r.state ≠ 1) := by
  obtain ⟨hok, hdb, hr⟩ := exec_updatePromise h
  injection hr with hr
  refine ⟨fun hn => ?_, fun r hrm hid => ?_⟩
  · obtain ⟨x, hx, hw⟩ := countP_pos.mp (hr ▸ hn)
    exact ⟨x, hx, (promiseUpdate_where_iff c x).mp hw⟩
  · rw [hdb, mem_updateWhere] at hrm
    obtain ⟨x, _, ⟨_, rfl⟩ | ⟨hw, rfl⟩⟩ := hrm
    · -- a rewritten row carries `c.state` (unfold `promiseUpdate_set`), and that is a completed state
      exact promiseStateOk_ne_one hok
    · -- an unmatched row with this id: were it pending, the guard (this id, pending) would have matched
      exact fun hs => Bool.false_ne_true (hw.symm.trans ((promiseUpdate_where_iff c r).mpr ⟨hid, hs⟩))

/-- creation takes effect at most once per id: a create over an existing id reports 0 rows and changes no table -/
theorem creation_takes_effect_once (d : Dialect) (db : Db) (c : CreatePromiseCmd) (h : ∃ r ∈ db.promises, r.id = c.id) :
    ∃ db', db.exec (defs d) (.createPromise c) = .ok (db', .rows 0) ∧ db'.promises = db.promises :=
  ⟨_, C16.createPromise_present (d := d) db c h, rfl⟩

/-! ### the same, over every run of the kernel model -/

/-- **Every run: one promise per id.** Whatever creates, retries (with any key), races, failures, crashes and
    restarts a run contains, no reachable database holds two promises with one id: of any number of creates of
    an id at most one ever took effect. -/
theorem ids_unique_every_run (env : Env) (d : Dialect) (db0 : Db) (h0 : PromIds db0) (cs : List Choice) :
    PromIds ((Sys.boot env d (defs d) db0).run cs).db :=
  run_inv PromIds _ (promIds_exec d) cs h0

/-- spelled out: two stored promises with the same id are the same row -/
theorem at_most_one_promise_per_id_every_run (env : Env) (d : Dialect) (db0 : Db) (h0 : PromIds db0) (cs : List Choice)
    (a b : PromiseRow) (ha : a ∈ ((Sys.boot env d (defs d) db0).run cs).db.promises)
    (hb : b ∈ ((Sys.boot env d (defs d) db0).run cs).db.promises) (hid : a.id = b.id) : a = b :=
  promIds_unique (ids_unique_every_run env d db0 h0 cs) ha hb hid

/-- the empty database a fresh server starts from meets the hypothesis -/
example : PromIds ({} : Db) := by simp [PromIds]

/-! ### non-vacuity -/
example : keyMatch (some "k") (some "k") = true ∧ keyMatch none none = false := by decide

end Resonate.C03
