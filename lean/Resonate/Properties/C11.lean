/-
  Properties/C11.lean — background processing converges for every batch size.

  Each of the five background coroutines is a sweep: read up to `batch` items that need attention, write the fix for
  exactly those.  The theorems give, per sweep, a measure on the database that one complete successful cycle of the
  idle server (clients stopped, the clock read `t`) decreases: overdue promises and late tasks by `min batch measure`
  (iterated for the promises: zero after ⌈measure / batch⌉ cycles, for every batch size ≥ 1), expired locks to zero, the
  schedules' lag strictly with every firing, tasks to dispatch by the number selected; and they show that the coroutine
  submits exactly the transactions the measure lemma is about.  A failed cycle (store / router / transport error)
  writes nothing or less and is retried by the next one: it delays, never prevents.  Model: Model/Coroutines.lean, tied
  to the real coroutines by sysdiff, whose quiesce phase also checks the convergence conditions on the implementation's
  own database.
-/
import Resonate.Proofs.Converge
import Resonate.Proofs.Fair
import Resonate.Proofs.CoBasics
import Resonate.Model.System
import Resonate.Properties.C01
namespace Resonate.C11
open SqlSpec Coro

/-! ### promises past their timeout -/

/-- what the time-out sweep submits for the rows it read: one completion block per row (time-out state from the
    promise's own tags, completion time = its timeout) -/
theorem timeout_sweep_submits (env : Env) (t0 t : Time) (rows : List PromiseRow)
    (h1 : rows.any (fun r => r.state != P_PENDING) = false) (h2 : rows.any (fun r => !(decide (r.timeout ≤ t))) = false)
    (hne : rows.isEmpty = false) :
    ((timeoutPromises env t0).next t [.store [.promises rows]]).subs = (sweepTxs rows t).map Subm.store := by
  simp only [timeoutPromises, Co.next, h1, h2, hne, Bool.false_eq_true, if_false, Co.subs, sweepTxs, List.map_map]
  rfl

/-- one complete successful cycle decreases the overdue set by `min batch overdue` … -/
theorem timeout_cycle (d : Dialect) (db db' : Db) (t : Time) (b : Nat) (rss : List (List Res)) (hk : PromIds db)
    (hx : db.execTxs (defs d) (sweepTxs (sweepRows d db t b) t) = .ok (db', rss)) :
    overdue t db' = overdue t db - min b (overdue t db) := by
  obtain ⟨hlen, hp, hall⟩ := sweepRows_spec d db t b hk
  unfold overdue at hlen ⊢
  rw [execTxs_completeTxs_promises d t (fun r : PromiseRow => timeoutCmd r.id r.toPromise) _ db db' rss hx, ← hlen]
  -- `countP_sweep`: the key is the id, the set counted is `overdueP t`, the update for a row `r` read is the WHERE / SET of its
  -- time-out command; the WHERE fixes the id (`hkey`), the SET keeps it (`hf`) and takes the row out of the overdue ones (`hq`)
  refine Nat.eq_sub_of_add_eq (countP_sweep (key := fun x : PromiseRow => x.id) (rk := fun r : PromiseRow => r.id) (q := overdueP t)
    (p := fun r => promiseUpdate_where (timeoutCmd r.id r.toPromise)) (f := fun r => promiseUpdate_set (timeoutCmd r.id r.toPromise))
    (hkey := fun r a h => ((promiseUpdate_where_iff _ a).mp h).1) (hf := fun _ _ => rfl) (hq := ?_) _ _ hk hp hall)
  -- the state written is `timed out` or `resolved`, never `pending`
  intro r a _
  simp [overdueP, promiseUpdate_set, timeoutCmd, promiseStateOk_ne_one (promiseStateOk_timedoutState _)]

/-- … so after `k` cycles at most `overdue - k · batch` promises are still pending past their timeout … -/
theorem timeout_cycles (d : Dialect) (t : Time) (b : Nat) (k : Nat) (dbs : Nat → Db) (hk : PromIds (dbs 0))
    (hc : ∀ i, i < k → TimeoutCycle d t b (dbs i) (dbs (i + 1))) :
    PromIds (dbs k) ∧ overdue t (dbs k) = overdue t (dbs 0) - k * b := by
  induction k with
  | zero => exact ⟨hk, by rw [Nat.zero_mul]; rfl⟩
  | succ k ih =>
    obtain ⟨hkk, hov⟩ := ih fun i hi => hc i (Nat.lt_succ_of_lt hi)
    obtain ⟨rss, hx⟩ := hc k (Nat.lt_succ_self k)
    refine ⟨promIds_execTxs d _ _ _ rss hx hkk, ?_⟩
    -- `a - min b a = a - b`, and `(o - k * b) - b = o - (k * b + b)`
    rw [timeout_cycle d _ _ t b rss hkk hx, Nat.min_comm, ← Nat.sub_eq_sub_min, hov, Nat.succ_mul, Nat.sub_sub]

/-- … and none once `k · batch ≥ overdue` (⌈overdue / batch⌉ cycles, any batch size ≥ 1) -/
theorem timeout_converges (d : Dialect) (t : Time) (b : Nat) (k : Nat) (dbs : Nat → Db)
    (hk : PromIds (dbs 0)) (hc : ∀ i, i < k → TimeoutCycle d t b (dbs i) (dbs (i + 1))) (hkb : overdue t (dbs 0) ≤ k * b) :
    overdue t (dbs k) = 0 := by
  rw [(timeout_cycles d t b k dbs hk hc).2]
  exact Nat.sub_eq_zero_of_le hkb

/-! ### locks past their lease -/

theorem lock_sweep_submits (t0 : Time) : (timeoutLocks t0).subs = [.store [.timeoutLocks { timeout := t0 }]] := rfl

/-- ONE sweep removes every lock whose lease has run out (no batch limit) -/
theorem lock_converges (d : Dialect) (db db' : Db) (t : Time) (r : Res)
    (h : db.exec (defs d) (.timeoutLocks { timeout := t }) = .ok (db', r)) : expiredLocks t db' = 0 := by
  cases h
  -- what the sweep's DELETE leaves fails its WHERE, which is the predicate counted
  exact (countP_eq_zero _ _).mpr fun a ha => (Bool.not_eq_true' _).mp (List.mem_filter.mp ha).2

/-! ### enqueued / claimed tasks past their lease or timeout -/

/-- what the lease sweep submits: ONE transaction with one guarded update per row read (back to `init` with the next
    counter while the task's own timeout has not passed, else `timed out`) -/
theorem task_sweep_submits (env : Env) (t0 t : Time) (rows : List TaskRow)
    (h1 : rows.any (fun r => (r.state &&& (T_INIT ||| T_ENQUEUED ||| T_CLAIMED)) == 0) = false) (hne : rows.isEmpty = false) :
    ((timeoutTasks env t0).next t [.store [.tasks rows]]).subs = [.store (rows.map fun r => .updateTask (sweepTaskCmd t r))] := by
  have hne2 : (rows.map fun r => Cmd.updateTask (sweepTaskCmd t r)).isEmpty = false := by
    rw [List.isEmpty_map]; exact hne
  -- `sweepTaskCmd` is the coroutine's `if` with the constructor pulled out
  simp only [sweepTaskCmd, apply_ite Cmd.updateTask] at hne2 ⊢
  simp only [timeoutTasks, Co.next, h1, hne, Bool.false_eq_true, if_false, hne2, Co.subs]

theorem task_cycle (d : Dialect) (db db' : Db) (t : Time) (b : Nat) (rs : List Res) (hk : TaskIds db) (hl : LegalTaskStates db)
    (hx : db.execTx (defs d) ((sweepTaskRows d db t b).map fun r => .updateTask (sweepTaskCmd t r)) = .ok (db', rs)) :
    lateTasks t db' = lateTasks t db - min b (lateTasks t db) := by
  obtain ⟨hlen, hp, hall⟩ := sweepTaskRows_spec d db t b hk hl
  rw [← hlen]
  refine Nat.eq_sub_of_add_eq (task_updates_progress d (lateT t) (sweepTaskCmd t) (fun r => (sweepTaskCmd_guard t r).1) ?_ _ db db' rs hk hp hall hx)
  -- the state written is `init` or `timed out`, neither of which is late
  intro r a
  rcases sweepTaskCmd_state t r with h | h <;> simp [lateT, taskUpdate_set, h]

/-! ### schedules behind the clock -/

/-- firing one due occurrence strictly reduces the total lag (C10: the occurrence fired is the oldest missed one, none is
    skipped); with the clock standing still a schedule that is `n` occurrences behind has caught up after `n` cycles.
    NOTE (finding F16, recorded in KNOWN_FINDINGS): each cycle fires ONE occurrence per schedule and cycles are at least
    `signal timeout` apart, so while the clock runs a schedule whose period is not longer than the signal timeout
    (e.g. `* * * * * *` with the default 1 s) never reduces its lag after a downtime. -/
theorem schedule_progress (d : Dialect) (t : Time) (db : Db) (c : UpdateScheduleCmd) (occ : Int) (hl : c.lastRunTime = some occ)
    (hlt : occ < c.nextRunTime) (hdue : occ ≤ t) (hex : ∃ r ∈ db.schedules, r.id = c.id ∧ r.nextRunTime = occ) :
    ∃ db' r', db.exec (defs d) (.updateSchedule c) = .ok (db', r') ∧ lag t db' < lag t db := by
  refine ⟨_, _, C10.update_schedule_spec (d := d) db c occ hl, ?_⟩
  -- a row fired moves from `occ ≤ t` to a later time: its lag gets smaller (the other rows keep theirs), and one is fired
  have hle := sum_updateWhere_le (lagOf t) (fun x => x.id == c.id && x.nextRunTime == occ)
    (fun x => { x with lastRunTime := some x.nextRunTime, nextRunTime := c.nextRunTime }) (fun x hm => by
      have hx : x.nextRunTime = occ := eq_of_beq (Bool.and_eq_true_iff.mp hm).2
      exact lagOf_lt t x _ (hx ▸ hlt) (hx ▸ hdue)) db.schedules
  have hpos : 0 < countP (fun x : ScheduleRow => x.id == c.id && x.nextRunTime == occ) db.schedules :=
    let ⟨r, hr, hid, hn⟩ := hex
    countP_pos.mpr ⟨r, hr, Bool.and_eq_true_iff.mpr ⟨beq_iff_eq.mpr hid, beq_iff_eq.mpr hn⟩⟩
  exact Nat.lt_of_lt_of_le (Nat.lt_add_of_pos_right hpos) hle

/-- **F18 (known finding) as a theorem about the model.**  A run of the schedule sweep whose whole batch consists of
    schedules whose id template does not evaluate submits nothing and finishes: no `UpdateSchedule` is written, the rows keep
    their next run time, and — `ORDER BY next_run_time ASC` — the same rows are the batch of every later run.  With
    `scheduleBatchSize` such schedules the sweep never reaches another schedule.  (The full statement of C11 — no schedule
    with a satisfiable cron has a next run time in the past — is therefore false of the model and of the code; the
    theorems above are its part for schedules the sweep can fire.) -/
theorem skipped_batch_writes_nothing_F18 (env : Env) (t0 t : Time) (rows : List ScheduleRow)
    (hdue : ∀ r ∈ rows, r.nextRunTime ≤ t)
    (hbad : ∀ r ∈ rows, env.genId r.toSchedule.promiseId r.toSchedule.id r.toSchedule.nextRunTime = none) :
    (schedulePromises env t0).next t [.store [.schedules rows]] = .done none := by
  obtain ⟨k, h⟩ := schedule_sweep_next env t0 t rows
  have h1 : ¬ rows.any (fun r => !(decide (r.nextRunTime ≤ t))) = true := by
    rw [List.any_eq_true]; rintro ⟨r, hr, hn⟩
    rw [decide_eq_true (hdue r hr)] at hn; cases hn
  -- an item carries the id its template evaluated to (`C10.firing_fields`): no id, no item
  have h2 : rows.filterMap (C10.firingItem env t) = [] := List.filterMap_eq_nil_iff.mpr fun r hr => by
    cases hf : C10.firingItem env t r with
    | none => rfl
    | some p =>
      have hid : env.genId r.promiseId r.id r.nextRunTime = some p.1.id := (C10.firing_fields env t r p.1 p.2 hf).1
      have hno : env.genId r.promiseId r.id r.nextRunTime = none := hbad r hr  -- `toSchedule` copies the three fields
      cases hid.symm.trans hno
  rw [h, if_neg h1, h2]; rfl

/-- **F16 (known finding), capacity form**: a run fires at most one occurrence per row it read, hence at most
    `scheduleBatchSize` occurrences (the rows are what `Db.exec (.readSchedules c)` returns, a `takeLimit c.limit`) -/
theorem sweep_fires_at_most_one_per_row (env : Env) (t0 t : Time) (rows : List ScheduleRow) :
    ((schedulePromises env t0).next t [.store [.schedules rows]]).subs.length ≤ rows.length := by
  obtain ⟨k, h⟩ := schedule_sweep_next env t0 t rows
  rw [h]
  by_cases h1 : rows.any (fun r => !(decide (r.nextRunTime ≤ t))) = true
  · rw [if_pos h1]; exact Nat.zero_le _
  · rw [if_neg h1]
    by_cases h2 : (rows.filterMap (C10.firingItem env t)).isEmpty = true
    · rw [if_pos h2]; exact Nat.zero_le _
    · rw [if_neg h2, Co.subs, List.length_map]; exact List.length_filterMap_le _ _

/-- the model's cron semantics (grid crons) always yields a strictly later time -/
theorem grid_next_is_later (cron : String) (p : Int) (t : Int) (hp : 0 < p) (h : cronGrid cron = some p) :
    ∃ n, cronNextModel cron t = some n ∧ t < n :=
  ⟨_, C10.cronNextModel_grid cron p t h, (C10.grid p hp t).2.1⟩

/-- **F19 (known finding) as a statement about the model.**  What the lease sweep reads is a PREFIX, in the order (root promise
    id, sort id), of the tasks that are enqueued / claimed and past their lease or timeout: a late task with at least `limit` late
    tasks before it in that order is not in the batch — and when those are unclaimed tasks that are re-dispatched after every
    reset and expire again one enqueue delay later, it never is. -/
theorem lease_sweep_reads_a_prefix_in_root_order_F19 (d : Dialect) (db : Db) (c : ReadTasksCmd) (hs : c.states.isEmpty = false) :
    db.exec (defs d) (.readTasks c) =
      .ok (db, .tasks ((takeLimit c.limit ((db.tasks.filter (taskSelectAll_where c)).mergeSort taskOrdLe)).map taskSelectAll_proj)) :=
  -- the clause of `Db.exec` is `if c.states.isEmpty then .error … else .ok (this)`
  if_neg (ne_true_of_eq_false hs)

/-! ### tasks waiting to be dispatched -/

/-- one dispatch cycle whose hand-offs all succeed moves every selected task out of `init`; C08.dispatch_selection says
    which tasks are selected (one per root, oldest first, up to the batch size) -/
theorem dispatch_progress (d : Dialect) (e : Int) (rows : List TaskRow) (db db' : Db) (rs : List Res)
    (hk : TaskIds db) (hp : List.Pairwise (fun a b : TaskRow => a.id ≠ b.id) rows)
    (hall : ∀ r ∈ rows, ∃ x ∈ db.tasks, x.id = r.id ∧ x.counter = r.counter ∧ isInit x = true)
    (hx : db.execTx (defs d) (rows.map fun r => enqueueOutcomeCmd e r (.sender true)) = .ok (db', rs)) :
    initTasks db' + rows.length = initTasks db := by
  simp only [enqueueOutcomeCmd_sent] at hx
  refine task_updates_progress d isInit (handedOffCmd e) (fun _ => rfl) ?_ rows db db' rs hk hp ?_ hx
  · -- the state written is `completed` or `enqueued`, not `init`
    intro r a
    unfold isInit taskUpdate_set handedOffCmd
    cases r.mesg.type == "notify" <;> rfl
  · intro r hr
    obtain ⟨x, hx, hid, hcnt, hinit⟩ := hall r hr
    have h1 : x.state = 1 := beq_iff_eq.mp hinit
    -- the hand-off's guard is "state `init`, the counter read": it matches `x`
    have hcs : (handedOffCmd e r).currentStates = [x.state] := by rw [h1]; rfl
    have h0 : x.state ≠ 0 := by rw [h1]; decide
    exact ⟨x, hx, taskUpdate_where_self _ x hid.symm hcs hcnt.symm h0, hinit⟩

/-! ### the kernel starts each sweep again once the signal timeout has passed and the previous instance has finished -/

theorem sweep_restarts (env : Env) (live : List Thread) (t : Time) (b : BgState)
    (hdue : env.cfg.signalTimeout ≤ t - b.last) (hdone : bgRunningDone live b = true) (hroom : 0 < env.cfg.coroutineMaxSize) :
    (startBg env true false live t [b] 0).2.1.map (·.tid) = [bgName b.kind ++ ":" ++ toString t] := by
  simp [startBg, hdue, hdone, hroom, newThread]

/-! ### … for every size of the scheduler's in-queue (the fix of finding F17) -/

/-- the registry a tick leaves is one `cycleBg` of the registry it found -/
theorem tick_registry_is_cycle (s : Sys) (t : Time) (hh : s.halted = none) (he : s.bgEnabled = true)
    (hd : (s.apiDone && s.apiQ.isEmpty) = false) :
    (s.tick t).1.bg = (cycleBg s.env (deliverAll s.threads (s.cq.take s.env.cfg.completionBatchSize)) t s.bg).1 := by
  simp only [Sys.tick, hh, he, hd, cycleBg, Option.isSome_none, Bool.false_eq_true, if_false]

/-- over consecutive cycles in which every registered sweep is due (the signal timeout has passed, its previous instance
    has finished), the sweep registered at position `i` is started at cycle `i` at the latest: all five sweeps run within
    five cycles for every in-queue size ≥ 1 (with one slot: one sweep per cycle, in rotation) -/
theorem every_sweep_gets_its_turn (env : Env) (hmax : 0 < env.cfg.coroutineMaxSize)
    (ts : Nat → Time) (lives : Nat → List Thread) (regs : Nat → List BgState)
    (hstep : ∀ j, regs (j + 1) = (cycleBg env (lives j) (ts j) (regs j)).1)
    (hdue : ∀ j, ∀ b ∈ regs j, BgDue env (lives j) (ts j) b)
    (i : Nat) (hi : i < (regs 0).length) :
    some ((regs 0)[i]).kind ∈ startedKinds (cycleBg env (lives i) (ts i) (regs i)).2 :=
  Resonate.every_sweep_gets_its_turn env hmax ts lives regs hstep hdue i hi

/-- an in-queue of ONE entry, five cycles one signal timeout apart, nothing live: the sweeps started are the five kinds, one per cycle -/
example :
    let env := defaultEnv { coroutineMaxSize := 1 }
    let r0 : List BgState := bgOrder.map fun k => { kind := k }
    let c0 := cycleBg env [] 1000 r0
    let c1 := cycleBg env [] 2000 c0.1
    let c2 := cycleBg env [] 3000 c1.1
    let c3 := cycleBg env [] 4000 c2.1
    let c4 := cycleBg env [] 5000 c3.1
    [c0, c1, c2, c3, c4].map (fun c => startedKinds c.2) =
      [[some .timeoutPromises], [some .schedulePromises], [some .timeoutLocks], [some .enqueueTasks], [some .timeoutTasks]] := by decide

/-! ### non-vacuity -/

/-- three overdue promises, batch size 2: 2 rows are read (then 1, then 0) -/
example :
    let db : Db := { promises := [ { C01.exRow with id := "a" }, { C01.exRow with id := "b" }, { C01.exRow with id := "c" } ], seqP := 3 }
    overdue 10 db = 3 ∧ (sweepRows .sqlite db 10 2).length = 2 := by decide

end Resonate.C11
