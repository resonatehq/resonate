/-
  Properties/C20.lean — client data is stored and returned exactly as supplied.
-/
import Resonate.Proofs.JsonRoundTrip
import Resonate.Proofs.CoBasics
import Resonate.Model.SqlSpec
import Resonate.Model.Env
import Resonate.Properties.C16
namespace Resonate.C20
open SqlSpec

/-! ### header / tag maps survive persistence (Go's JSON codec for map[string]string) -/

def encodeSMap (m : SMap) : String := String.ofList (Json.encMap (m.map fun kv => (kv.1.toList, kv.2.toList)))
def decodeSMap (s : String) : Option SMap := (Json.decMap s.toList).map fun l => l.map fun kv => (String.ofList kv.1, String.ofList kv.2)

/-- every string map — any Unicode content (quotes, backslashes, control characters, markup characters,
    U+2028/2029, astral-plane characters), any size — is recovered exactly from its persisted form -/
theorem map_round_trip (m : SMap) : decodeSMap (encodeSMap m) = some m := by
  rw [decodeSMap, encodeSMap, String.toList_ofList, Json.decMap_encMap, Option.map_some, List.map_map]
  refine congrArg some ((List.map_congr_left fun kv _ => ?_).trans (List.map_id m))
  simp only [Function.comp, String.ofList_toList, id]

/-! ### the store copies every client field verbatim, and reads return it verbatim -/

variable (d : Dialect)

/-- creating a promise and reading it back (same database, nothing in between) returns exactly the supplied
    id, parameter headers and bytes, timeout, creation key and tags -/
theorem create_then_read (db : Db) (c : CreatePromiseCmd) (hfresh : ∀ r ∈ db.promises, r.id ≠ c.id) :
    ∃ db1, db.exec (defs d) (.createPromise c) = .ok (db1, .rows 1) ∧
      ∃ row, db1.exec (defs d) (.readPromise { id := c.id }) = .ok (db1, .promises [row]) ∧
        row.id = c.id ∧ row.toPromise.param = c.param ∧ row.timeout = c.timeout ∧ row.idempotencyKeyForCreate = c.idempotencyKey ∧
        row.tags = c.tags ∧ row.createdOn = some c.createdOn ∧ row.state = 1 := by
  refine ⟨_, C16.createPromise_absent d db c hfresh, promiseSelect_proj (promiseInsert_row c (db.seqP + 1)), ?_, rfl, rfl, rfl, rfl, rfl, rfl, rfl⟩
  -- the read's filter passes over the old rows (`hfresh`) and keeps the new one
  show Except.ok (_, Res.promises (((List.filter (fun r => r.id == c.id) (db.promises ++ [_])).take 1).map promiseSelect_proj)) = _
  rw [List.filter_append, List.filter_eq_nil_iff.mpr fun r hr => by simpa using hfresh r hr]
  simp [promiseInsert_row]

/-- a completion stores the supplied value headers, value bytes and completion key verbatim -/
theorem completion_value_verbatim (c : UpdatePromiseCmd) (r : PromiseRow) :
    (promiseUpdate_set c r).toPromise.value = c.value ∧ (promiseUpdate_set c r).idempotencyKeyForComplete = c.idempotencyKey ∧
    (promiseUpdate_set c r).toPromise.param = r.toPromise.param := by
  simp [promiseUpdate_set, PromiseRow.toPromise]

/-- receiver descriptions and messages of registrations travel unchanged into the task created from them -/
theorem registration_to_task_verbatim (c : CreateTasksCmd) (cb : CallbackRow) (n : Nat) :
    (taskInsertAll_row c cb n).recv = cb.recv ∧ (taskInsertAll_row c cb n).mesg = cb.mesg ∧ (taskInsertAll_row c cb n).id = cb.id ∧
    (taskInsertAll_row c cb n).timeout = cb.timeout := ⟨rfl, rfl, rfl, rfl⟩

theorem callback_row_verbatim (c : CreateCallbackCmd) :
    (callbackInsert_row c).recv = c.recv ∧ (callbackInsert_row c).timeout = c.timeout ∧ (callbackInsert_row c).promiseId = c.promiseId := ⟨rfl, rfl, rfl⟩

theorem schedule_row_verbatim (c : CreateScheduleCmd) (n : Nat) :
    (scheduleInsert_row c n).id = c.id ∧ (scheduleInsert_row c n).description = c.description ∧ (scheduleInsert_row c n).cron = c.cron ∧
    (scheduleInsert_row c n).tags = c.tags ∧ (scheduleInsert_row c n).promiseId = c.promiseId ∧ (scheduleInsert_row c n).promiseTimeout = c.promiseTimeout ∧
    (scheduleInsert_row c n).toSchedule.promiseParam = c.promiseParam ∧ (scheduleInsert_row c n).promiseTags = c.promiseTags := ⟨rfl, rfl, rfl, rfl, rfl, rfl, rfl, rfl⟩

/-! ### ids are compared exactly (no case folding, trimming or normalisation) outside search patterns -/

theorem promise_lookup_exact (c : ReadPromiseCmd) (r : PromiseRow) : promiseSelect_where c r = true ↔ r.id = c.id := by simp [promiseSelect_where]
theorem promise_update_exact (c : UpdatePromiseCmd) (r : PromiseRow) : promiseUpdate_where c r = true ↔ (r.id = c.id ∧ r.state = 1) := by simp [promiseUpdate_where]
theorem task_lookup_exact (c : ReadTaskCmd) (r : TaskRow) : taskSelect_where c r = true ↔ r.id = c.id := by simp [taskSelect_where]
theorem schedule_lookup_exact (c : ReadScheduleCmd) (r : ScheduleRow) : scheduleSelect_where c r = true ↔ r.id = c.id := by simp [scheduleSelect_where]
theorem lock_lookup_exact (c : ReadLockCmd) (r : LockRow) : lockRead_where c r = true ↔ r.resourceId = c.resourceId := by simp [lockRead_where]
theorem callbacks_by_promise_exact (c : DeleteCallbacksCmd) (r : CallbackRow) : callbackDelete_where c r = true ↔ r.promiseId = c.promiseId := by simp [callbackDelete_where]

/-! ### ids the server derives embed the client id unaltered -/

theorem invoke_id_embeds (p : String) : Coro.invokeId p = "__invoke:" ++ p := rfl
theorem resume_id_embeds (root leaf : String) : Coro.callbackId root leaf = "__resume:" ++ root ++ ":" ++ leaf := rfl
theorem notify_id_embeds (p i : String) : Coro.subscriptionId p i = "__notify:" ++ p ++ ":" ++ i := rfl

/-- the id template substitutes the schedule id verbatim (no escaping — after the repair of finding F4) -/
theorem template_embeds_id (id : String) (ts : Int) : genIdModel "{{.id}}" id ts = some id := by
  simp only [genIdModel]
  simp [tmplSubst, String.ofList_toList]

/-! ### non-vacuity -/
example : Json.encChar '<' = ['\\', 'u', '0', '0', '3', 'c'] := by decide
example : Json.decMap (Json.encMap [(['a', '"'], ['\n', 'é'])]) = some [(['a', '"'], ['\n', 'é'])] := Json.decMap_encMap _

end Resonate.C20
