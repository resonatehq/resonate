/-
  Properties/C02.lean — API histories are linearizable to the sequential durable-promise specification.

  The sequential specification is the SAME coroutine run by a single-threaded server: `seqRun` answers every store
  submission at once on the current database, one request at a time.  The concurrent kernel (Model/System.lean) runs
  the same coroutine with its reads and writes executed in different batches, arbitrarily interleaved with other
  requests and the background sweeps.  The theorems show that the interleaving is invisible: a request's answer and
  effect are those of `seqRun` started on the database as it stood at ONE instant inside the request's window —
  its (last) applied write, or its read when it writes nothing.

  PARTIAL (stated in MANIFEST): proved for single-transaction requests (locks, heartbeats, schedule read / search /
  delete, plain reads) and, on the path on which the write takes effect, for promise completion (explicit and the lazy
  time-out of ReadPromise), promise creation (with and without its task), registrations, schedule creation and task
  completion.  Not proved: ClaimTask (three steps, the attached promises are read after the claim) and SearchPromises
  with lazy time-outs (several writes and a retry).
-/
import Resonate.Proofs.Lin
import Resonate.Properties.C03
import Resonate.Properties.C06
namespace Resonate.C02
open SqlSpec Coro

/-! ### the sequential specification: the same coroutine, served alone -/

/-- a single-threaded server answers every submission immediately: a store transaction runs on the current database
    (an error leaves it unchanged), the router and the transports answer through the given oracles -/
def answerAll (g : SqlDefs) (route : Promise → Cpl) : Db → List Subm → Db × List Cpl
  | db, [] => (db, [])
  | db, .store tx :: rest =>
    match db.execTx g tx with
    | .ok (db', rs) => let r := answerAll g route db' rest; (r.1, .store rs :: r.2)
    | .error _ => let r := answerAll g route db rest; (r.1, .err :: r.2)
  | db, .router p :: rest => let r := answerAll g route db rest; (r.1, route p :: r.2)
  | db, .sender _ :: rest => let r := answerAll g route db rest; (r.1, .sender true :: r.2)

/-- run one request to its answer at clock `t` (`body` restarts it when it lost a race — which never happens when it is served alone) -/
def seqRun (g : SqlDefs) (route : Promise → Cpl) (body : Time → Co) (t : Time) : Nat → Db → Co → Db × Option Resp
  | 0, db, _ => (db, none)
  | _ + 1, db, .done o => (db, o)
  | _ + 1, db, .panic _ => (db, none)
  | fuel + 1, db, .retry => seqRun g route body t fuel db (body t)
  | fuel + 1, db, .yield subs k => let r := answerAll g route db subs; seqRun g route body t fuel r.1 (k t r.2)

/-- served alone, a store transaction that succeeds is answered with its results … -/
theorem seqRun_store {g : SqlDefs} {route : Promise → Cpl} {body : Time → Co} {t : Time} {db db' : Db} {tx : List Cmd} {rs : List Res}
    (hx : db.execTx g tx = .ok (db', rs)) (fuel : Nat) (k : Time → List Cpl → Co) :
    seqRun g route body t (fuel + 1) db (.yield [.store tx] k) = seqRun g route body t fuel db' (k t [.store rs]) := by
  simp only [seqRun, answerAll, hx]

theorem seqRun_cmd {g : SqlDefs} {route : Promise → Cpl} {body : Time → Co} {t : Time} {db db' : Db} {c : Cmd} {r : Res}
    (hx : db.exec g c = .ok (db', r)) (fuel : Nat) (k : Time → List Cpl → Co) :
    seqRun g route body t (fuel + 1) db (.yield [.store [c]] k) = seqRun g route body t fuel db' (k t [.store [r]]) :=
  seqRun_store (execTx_single hx) fuel k

/-- … and a question to the router by the oracle -/
theorem seqRun_router (g : SqlDefs) (route : Promise → Cpl) (body : Time → Co) (t : Time) (db : Db) (p : Promise) (fuel : Nat)
    (k : Time → List Cpl → Co) :
    seqRun g route body t (fuel + 1) db (.yield [.router p] k) = seqRun g route body t fuel db (k t [route p]) := rfl

/-! ### one transaction: atomic by construction -/

/-- a request whose coroutine submits ONE store transaction and answers from its result is linearized at that transaction:
    executed in any batch on the database `db` as it then stands, its answer and effect are those of the sequential run on `db` -/
theorem single_transaction_linearizable (g : SqlDefs) (route : Promise → Cpl) (body : Time → Co) (t : Time) (tx : List Cmd)
    (k : Time → List Cpl → Co) (hco : body t = .yield [.store tx] k)
    (db db' : Db) (rs : List Res) (hx : db.execTx g tx = .ok (db', rs)) (o : Option Resp) (hfin : k t [.store rs] = .done o) (fuel : Nat) :
    seqRun g route body t (fuel + 2) db (body t) = (db', o) := by
  rw [hco, seqRun_store hx, hfin]
  rfl

/-- the single-transaction request kinds -/
theorem single_transaction_kinds :
    (∀ q t0, (acquireLock q t0).subs.length = 1) ∧ (∀ a b t0, (releaseLock a b t0).subs.length = 1) ∧
    (∀ p t0, (heartbeatLocks p t0).subs.length = 1) ∧ (∀ p t0, (heartbeatTasks p t0).subs.length = 1) ∧
    (∀ i t0, (readSchedule i t0).subs.length = 1) ∧ (∀ i t0, (deleteSchedule i t0).subs.length = 1) ∧
    (∀ i t0, (readPromise i t0).subs.length = 1) := by
  refine ⟨?_, ?_, ?_, ?_, ?_, ?_, ?_⟩ <;> intros <;> rfl

/-! ### read, then guarded write: the write is the linearization point -/

/-- if the read, repeated at the instant of the write, answers what the coroutine had read (stability — proved per kind
    below), then the concurrent execution (read in an earlier batch, write in `db2`) ends with the answer and the effect
    of the sequential run on `db2` -/
theorem two_step_collapse (g : SqlDefs) (route : Promise → Cpl) (body : Time → Co) (t : Time)
    (readTx writeTx : List Cmd) (k1 k2 : Time → List Cpl → Co) (db2 db3 : Db) (rs1 rs2 : List Res) (o : Option Resp)
    (hco : body t = .yield [.store readTx] k1)
    (hstable : db2.execTx g readTx = .ok (db2, rs1))
    (hnext : k1 t [.store rs1] = .yield [.store writeTx] k2)
    (hw : db2.execTx g writeTx = .ok (db3, rs2))
    (hfin : k2 t [.store rs2] = .done o) (fuel : Nat) :
    seqRun g route body t (fuel + 3) db2 (body t) = (db3, o) := by
  rw [hco, seqRun_store hstable, hnext, seqRun_store hw, hfin]
  rfl

/-- **read a promise, then complete it.** Any request whose coroutine reads promise `id` and then submits a completion block
    for it is linearized at that block: the coroutine read the pending row `x` in `db1`; the block is applied in `db2`, whatever
    happened in between.  The read repeated at `db2` answers the same row (`read_stable_while_pending`), so by
    `two_step_collapse` the answer and the effect are those of the single-threaded server on `db2`. -/
theorem read_then_complete_linearizable (d : Dialect) (route : Promise → Cpl) (body : Time → Co) (id : String) (t : Time)
    (k1 : Time → List Cpl → Co) (hco : body t = .yield [.store [.readPromise { id := id }]] k1)
    (db1 db2 db3 : Db) (hm : PromMono db1 db2) (hk2 : PromIds db2) (x : PromiseRow) (hx : x ∈ db1.promises) (hid : x.id = id)
    (k2 : Time → List Cpl → Co) (cmd : UpdatePromiseCmd) (t1 : Time) (hcid : cmd.id = x.id)
    (hnext : k1 t [.store [.promises [promiseSelect_proj x]]] = .yield [.store (completeTx cmd t1)] k2)
    (rs : List Res) (hw : db2.execTx (defs d) (completeTx cmd t1) = .ok (db3, rs)) (hone : rs.head? = some (.rows 1))
    (o : Option Resp) (hfin : k2 t [.store rs] = .done o) (fuel : Nat) :
    seqRun (defs d) route body t (fuel + 3) db2 (body t) = (db3, o) := by
  obtain ⟨dbu, r1, rs1, e1, _, rfl⟩ := execTx_cons_ok.mp hw
  obtain rfl : r1 = .rows 1 := Option.some.inj hone
  subst hid
  -- the guarded update of the block matched a row, so the promise is pending in `db2`
  have hpend := (C03.completion_takes_effect_once d db2 dbu cmd 1 e1).1 Nat.one_pos
  rw [hcid] at hpend
  exact two_step_collapse (defs d) route body t _ _ k1 k2 db2 db3 _ _ o hco
    (execTx_single (read_stable_while_pending d hm hk2 hx hpend)) hnext hw hfin fuel

/-- **completion**: same status, same returned promise, same effect as the single-threaded server on `db2`. -/
theorem completion_linearizable (d : Dialect) (route : Promise → Cpl) (req : CompletePromiseReq) (t : Time)
    (db1 db2 db3 : Db) (hm : PromMono db1 db2) (hk2 : PromIds db2) (x : PromiseRow) (hx : x ∈ db1.promises) (hid : x.id = req.id)
    (k2 : Time → List Cpl → Co) (tx : List Cmd) (cmd : UpdatePromiseCmd) (t1 : Time) (htx : tx = completeTx cmd t1) (hcid : cmd.id = x.id)
    (hnext : (completePromise req t).next t [.store [.promises [promiseSelect_proj x]]] = .yield [.store tx] k2)
    (rs : List Res) (hw : db2.execTx (defs d) tx = .ok (db3, rs)) (hone : rs.head? = some (.rows 1))
    (o : Option Resp) (hfin : k2 t [.store rs] = .done o) (fuel : Nat) :
    seqRun (defs d) route (completePromise req) t (fuel + 3) db2 (completePromise req t) = (db3, o) :=
  -- `rfl`: the coroutine starts with the read of `req.id`; `.next` of a yield is its continuation, so `hnext` speaks of `k1`
  read_then_complete_linearizable d route _ req.id t _ rfl db1 db2 db3 hm hk2 x hx hid k2 cmd t1 hcid (htx ▸ hnext) rs (htx ▸ hw) hone o hfin fuel

/-- **read with a lazy time-out**: the read of a pending, overdue promise is linearized at its time-out block — same answer
    (the promise as timed out) and same effect as the single-threaded server on `db2` -/
theorem lazy_timeout_read_linearizable (d : Dialect) (route : Promise → Cpl) (id : String) (t : Time)
    (db1 db2 db3 : Db) (hm : PromMono db1 db2) (hk2 : PromIds db2) (x : PromiseRow) (hx : x ∈ db1.promises) (hid : x.id = id)
    (k2 : Time → List Cpl → Co) (tx : List Cmd) (cmd : UpdatePromiseCmd) (t1 : Time) (htx : tx = completeTx cmd t1) (hcid : cmd.id = x.id)
    (hnext : (readPromise id t).next t [.store [.promises [promiseSelect_proj x]]] = .yield [.store tx] k2)
    (rs : List Res) (hw : db2.execTx (defs d) tx = .ok (db3, rs)) (hone : rs.head? = some (.rows 1))
    (o : Option Resp) (hfin : k2 t [.store rs] = .done o) (fuel : Nat) :
    seqRun (defs d) route (readPromise id) t (fuel + 3) db2 (readPromise id t) = (db3, o) :=
  -- `rfl` and `hnext` as in `completion_linearizable`: `readPromise` starts with the same read
  read_then_complete_linearizable d route _ id t _ rfl db1 db2 db3 hm hk2 x hx hid k2 cmd t1 hcid (htx ▸ hnext) rs (htx ▸ hw) hone o hfin fuel

/-- **creation.** The insert is applied (one row) only where no promise with the id is stored; a read at that instant finds
    none, as the coroutine's earlier read did — and it was right about every earlier database too -/
theorem creation_read_stable (d : Dialect) (db1 db2 db3 : Db) (hm : PromMono db1 db2) (c : CreatePromiseCmd) (n : Nat) (hn : n ≠ 0)
    (hw : db2.exec (defs d) (.createPromise c) = .ok (db3, .rows n)) :
    db2.exec (defs d) (.readPromise { id := c.id }) = .ok (db2, .promises []) ∧
    db1.exec (defs d) (.readPromise { id := c.id }) = .ok (db1, .promises []) :=
  have h2 := created_absent d db2 db3 c n hn hw
  ⟨read_misses d db2 c.id h2, read_misses d db1 c.id (absent_now_absent_before hm c.id h2)⟩

/-- **registration.** The registration is inserted only where the awaited promise is pending; the promise returned with the
    `201` (read earlier) is the promise as it stands at the instant of the insert -/
theorem registration_read_stable (d : Dialect) (db1 db2 db3 : Db) (hm : PromMono db1 db2) (hk2 : PromIds db2)
    (x : PromiseRow) (hx : x ∈ db1.promises) (c : CreateCallbackCmd) (hid : c.promiseId = x.id)
    (hw : db2.exec (defs d) (.createCallback c) = .ok (db3, .rows 1)) :
    db2.exec (defs d) (.readPromise { id := x.id }) = .ok (db2, .promises [promiseSelect_proj x]) := by
  -- a row was inserted, so the guard held: some stored promise with that id is pending
  rw [C16.createCallback_spec] at hw
  split at hw
  next hg => exact read_stable_while_pending d hm hk2 hx (hid ▸ hg.1)
  next => cases hw

/-- the creation command of a `CreatePromise` request whose read was answered at clock `t` -/
def createCmdOf (req : CreatePromiseReq) (t : Time) : CreatePromiseCmd :=
  { id := req.id, param := req.param, timeout := req.timeout, idempotencyKey := req.idempotencyKey, tags := req.tags, createdOn := t }

/-- a promise (or promise + task) insert that reports a created promise found no promise with that id -/
theorem created_means_absent (d : Dialect) (db2 db3 : Db) (pc : CreatePromiseCmd) (ft : Option CreateTaskCmd) (r : Res)
    (hw : db2.exec (defs d) (childCmd pc ft) = .ok (db3, r)) (hr : r = .rows 1 ∨ r = .rows2 1 1) :
    ∀ x ∈ db2.promises, x.id ≠ pc.id := by
  intro x hx he
  -- over a stored id either insert reports no created promise
  have hany : db2.promises.any (fun r => r.id == pc.id) = true := any_key.mpr ⟨x, hx, he⟩
  -- `exec_res`: the result is `db2.resOf cmd`, for either insert "if a promise with the id is stored then no rows else …"
  have hres := exec_res hw
  cases ft with
  | none =>
    simp only [childCmd, Db.resOf, hany, if_true] at hres  -- `r = .rows 0`
    rcases hr with rfl | rfl <;> cases hres
  | some tc =>
    simp only [childCmd, Db.resOf, hany, if_true] at hres  -- `r = .rows2 0 0`
    rcases hr with rfl | rfl <;> cases hres

/-- **creation.** The coroutine read "no such promise" in `db1`, asked the router, and its insert — the promise, together with
    its invocation task when the router matched — is applied in `db2` and reports a created promise.  The read repeated at
    `db2` still finds none (`created_means_absent`), the router is a function of the promise, so the request is linearized at
    its insert: `201`, the promise as created, and the effect of the single-threaded server on `db2`. -/
theorem creation_linearizable (d : Dialect) (route : Promise → Cpl) (req : CreatePromiseReq) (t : Time) (db2 db3 : Db) (r : Res)
    (hroute : routeFailed (route (promiseOfCreate (createCmdOf req t))) = false)
    (hw : db2.exec (defs d) (childCmd (createCmdOf req t) (childTask (createCmdOf req t) none (routeOf (route (promiseOfCreate (createCmdOf req t))))))
            = .ok (db3, r))
    (hr : r = .rows 1 ∨ r = .rows2 1 1) (fuel : Nat) :
    seqRun (defs d) route (createPromise req) t (fuel + 4) db2 (createPromise req t) =
      (db3, some (.promise S_CREATED (some (promiseOfCreate (createCmdOf req t))))) := by
  have habs := created_means_absent d db2 db3 _ _ r hw hr
  -- served alone on `db2`: the read finds none, the router answers `route`, the insert is `hw`, and the answer follows
  refine (seqRun_cmd (read_misses d db2 req.id habs) _ _).trans ?_
  refine (seqRun_router ..).trans ?_
  refine (congrArg _ (createPromiseChild_routed (createCmdOf req t) none [] _ t hroute rfl)).trans ?_
  refine (seqRun_cmd hw _ _).trans ?_
  rcases hr with rfl | rfl <;> rfl

/-- **creation with its task (CreatePromiseAndTask).** As `creation_linearizable`, for the request that brings its own (claimed) task:
    the router must match, the promise and the task — the request's task command with the router's receiver — are written by ONE
    command in `db2`, and the answer carries both.  Linearized at that insert. -/
theorem creation_with_task_linearizable (d : Dialect) (route : Promise → Cpl) (req : CreatePromiseReq) (tc : CreateTaskCmd) (t0 t : Time)
    (db2 db3 : Db) (recv : String)
    (hroute : route (promiseOfCreate (createCmdOf req t)) = .router true recv)
    (hw : db2.exec (defs d) (.createPromiseAndTask { promiseCommand := createCmdOf req t, taskCommand := { tc with recv := recv } }) = .ok (db3, .rows2 1 1))
    (fuel : Nat) :
    seqRun (defs d) route (createPromiseInner req (some tc) true) t (fuel + 4) db2 (createPromiseInner req (some tc) true t0) =
      (db3, some (.promiseTask S_CREATED (some (promiseOfCreate (createCmdOf req t)))
        (some { id := tc.id, counter := 1, timeout := tc.timeout, processId := tc.processId, state := tc.state, rootPromiseId := req.id,
                recv := recv, mesg := tc.mesg, attempt := 0, ttl := tc.ttl, expiresAt := tc.expiresAt, createdOn := some tc.createdOn, completedOn := none }))) := by
  have habs := created_means_absent d db2 db3 (createCmdOf req t) (some { tc with recv := recv }) (.rows2 1 1) hw (.inr rfl)
  refine (seqRun_cmd (read_misses d db2 req.id habs) _ _).trans ?_
  refine (seqRun_router ..).trans ?_
  rw [createCmdOf] at hroute
  rw [hroute]
  exact seqRun_cmd hw _ _

/-- **registration (callback / subscription).** The coroutine read the pending promise `x` in `db1`; its guarded insert is
    applied (one row) in `db2`, whatever happened in between.  The read repeated at `db2` answers the same row
    (`registration_read_stable`), so the request is linearized at its insert: `201`, the promise as it stands at that
    instant, the registration, and the effect of the single-threaded server on `db2`. -/
theorem registration_linearizable (d : Dialect) (route : Promise → Cpl) (pid cb recv : String) (m : Mesg) (to : Int) (t : Time)
    (db1 db2 db3 : Db) (hm : PromMono db1 db2) (hk2 : PromIds db2) (x : PromiseRow) (hx : x ∈ db1.promises) (hid : x.id = pid)
    (hpend : ((promiseSelect_proj x).toPromise.state == P_PENDING) = true)
    (hw : db2.exec (defs d) (.createCallback { id := cb, promiseId := pid, recv := recv, mesg := m, timeout := to, createdOn := t }) = .ok (db3, .rows 1))
    (fuel : Nat) :
    seqRun (defs d) route (fun _ => registerCallback pid cb recv m to) t (fuel + 3) db2 (registerCallback pid cb recv m to) =
      (db3, some (.callback S_CREATED (some (promiseSelect_proj x).toPromise)
        (some { id := cb, promiseId := pid, recv := recv, mesg := m, timeout := to, createdOn := t }))) := by
  subst hid
  refine (seqRun_cmd (registration_read_stable d db1 db2 db3 hm hk2 x hx _ rfl hw) _ _).trans ?_
  -- with the row it read the coroutine branches on whether the promise is pending
  change seqRun _ _ _ _ _ _ (if ((promiseSelect_proj x).toPromise.state == P_PENDING) = true then _ else _) = _
  rw [hpend]
  exact seqRun_cmd hw _ _

/-- the response a task completion gives from the row it read -/
def completedTaskOf (r : TaskRow) (t : Time) : Task :=
  { (taskSelect_proj r).toTask with processId := none, state := T_COMPLETED, attempt := 0, ttl := 0, expiresAt := 0, completedOn := some t }

/-- the response does not depend on WHEN the task row was read while the task stayed the same claim: identity fields never change
    (`TaskRowLe`), the counter is the one the guard fixes, and every other field is overwritten by the completion -/
theorem completedTaskOf_stable (x y : TaskRow) (t : Time) (hle : TaskRowLe x y) (hc : x.counter = y.counter) :
    completedTaskOf x t = completedTaskOf y t := by
  obtain ⟨h1, _, h3, h4, h5, h6, h7, _, _⟩ := hle
  simp [completedTaskOf, taskSelect_proj, TaskRow.toTask, h1, h3, h4, h5, h6, h7, hc]

/-- **task completion.** The coroutine read the claimed task `x` (counter `c`) earlier; its guarded update (claimed, counter `c`) is
    applied in `db2`, where the task's row is `y` — the same task later (`TaskRowLe x y`, e.g. a heartbeat moved its lease), still
    claimed under `c` since the guard matched.  The request is linearized at that write: the single-threaded server on `db2`
    gives the same `201` with the same task and leaves the same database. -/
theorem task_completion_linearizable (d : Dialect) (route : Promise → Cpl) (id : String) (counter : Int) (t : Time) (db2 db3 : Db)
    (x y : TaskRow) (hle : TaskRowLe x y) (hy : db2.tasks.filter (fun r => r.id == id) = [y])
    (hxc : x.counter = counter) (hys : y.state = T_CLAIMED) (hyc : y.counter = counter)
    (hw : db2.exec (defs d) (.updateTask { id := id, processId := none, state := T_COMPLETED, counter := counter, attempt := 0, ttl := 0, expiresAt := 0, completedOn := some t, currentStates := [T_CLAIMED], currentCounter := counter }) = .ok (db3, .rows 1))
    (fuel : Nat) :
    seqRun (defs d) route (completeTask id counter) t (fuel + 3) db2 (completeTask id counter t) =
      (db3, some (.task S_CREATED (some (completedTaskOf x t)))) := by
  rw [completedTaskOf_stable x y t hle (hxc.trans hyc.symm)]
  -- `Db.exec` on `.readTask` is by definition `.ok (db, .tasks (((filter by id).take 1).map proj))`: the function below at the filtered list
  have hread : db2.exec (defs d) (.readTask { id := id }) = .ok (db2, .tasks [taskSelect_proj y]) :=
    congrArg (fun l : List TaskRow => Except.ok (db2, Res.tasks ((l.take 1).map taskSelect_proj))) hy
  refine (seqRun_cmd hread _ _).trans ?_
  -- the row read is claimed under `counter`: the coroutine goes on to its guarded update
  change seqRun _ _ _ _ _ _ (if (y.state == T_COMPLETED || y.state == T_TIMEDOUT) = true then _
    else if (y.state == T_INIT || y.state == T_ENQUEUED) = true then _ else if (y.counter != counter) = true then _ else _) = _
  rw [hys, hyc, bne_self_eq_false]
  exact seqRun_cmd hw _ _

/-- the insert a schedule creation submits at clock `t`, and the schedule it answers with -/
def schedCmd (req : CreateScheduleReq) (next : Int) (t : Time) : CreateScheduleCmd :=
  { id := req.id, description := req.description, cron := req.cron, tags := req.tags, promiseId := req.promiseId, promiseTimeout := req.promiseTimeout, promiseParam := req.promiseParam, promiseTags := req.promiseTags, nextRunTime := next, idempotencyKey := req.idempotencyKey, createdOn := t }
def schedOf (req : CreateScheduleReq) (next : Int) (t : Time) : Schedule :=
  { id := req.id, description := req.description, cron := req.cron, tags := req.tags, promiseId := req.promiseId, promiseTimeout := req.promiseTimeout, promiseParam := req.promiseParam, promiseTags := req.promiseTags, lastRunTime := none, nextRunTime := next, idempotencyKey := req.idempotencyKey, createdOn := t }

/-- **schedule creation.** The insert is applied (one row) only where no schedule with the id is stored, so the read repeated
    at that instant answers "none" as the coroutine's earlier read did, whatever happened in between; the request is
    linearized at its insert: the concurrent execution ends with the answer (`201` and the schedule with its first run
    computed from the creation time) and the effect of the single-threaded server on the database of the insert -/
theorem schedule_creation_linearizable (d : Dialect) (env : Env) (route : Promise → Cpl) (req : CreateScheduleReq) (t : Time)
    (db2 db3 : Db) (next : Int) (hn : env.cronNext req.cron t = some next)
    (hw : db2.exec (defs d) (.createSchedule (schedCmd req next t)) = .ok (db3, .rows 1)) (fuel : Nat) :
    seqRun (defs d) route (createSchedule env req) t (fuel + 3) db2 (createSchedule env req t) =
      (db3, some (.schedule S_CREATED (some (schedOf req next t)))) := by
  -- `.createSchedule` is a conditional insert (`ite_ok_eq_ok`: see the header of Proofs/Frame.lean); it reported a row, so no
  -- schedule with this id is stored, and the read finds none
  have hnew : ∀ r ∈ db2.schedules, r.id ≠ req.id := by
    rcases ite_ok_eq_ok.mp hw with ⟨_, h⟩ | ⟨hnone, _⟩
    · cases h  -- id stored: 0 rows
    · exact not_any_key.mp hnone
  -- `Db.exec` on `.readSchedule` is `.ok (db, .schedules (((filter by id).take 1).map proj))`, as for `.readTask` above
  have hread : db2.exec (defs d) (.readSchedule { id := req.id }) = .ok (db2, .schedules []) :=
    congrArg (fun l : List ScheduleRow => Except.ok (db2, Res.schedules ((l.take 1).map scheduleSelect_proj)))
      (List.filter_eq_nil_iff.mpr fun r hr he => hnew r hr (eq_of_beq he))
  refine (seqRun_cmd hread _ _).trans ?_
  simp only [readScheduleRow, hn]
  exact seqRun_cmd hw _ _

/-! ### no answer reflects a state that never existed, or an effect that is later undone -/

/-- every store result a coroutine is resumed with is the result of executing ITS transaction on a database that existed
    (C06.store_completion_is_truthful), and what it wrote is never undone (PromMono over every continuation of the run) -/
theorem answers_come_from_real_states (R : Db → Db → Prop) (hr : ∀ db, R db db) (ht : ∀ a b c, R a b → R b c → R a c)
    (s : Sys) (htx : ∀ db db' cs rs, db.execTx s.g cs = .ok (db', rs) → R db db')
    (items : List (SubId × FailMode)) (id : SubId) (rs : List Res)
    (hin : (id, Cpl.store rs) ∈ (s.execStore items).1.cq) (hnew : (id, Cpl.store rs) ∉ s.cq) :
    ∃ tx, (id, Subm.store tx) ∈ s.pending ∧
      ∃ dbi dbi', R s.db dbi ∧ dbi.execTx s.g tx = .ok (dbi', rs) ∧ R dbi' (s.execStore items).1.db :=
  C06.store_completion_is_truthful R hr ht s htx items id rs hin hnew

/-! ### non-vacuity -/

/-- the sequential server completes a pending promise: 201 and the row is resolved (build-time test of the executable spec) -/
private def demoReq : CompletePromiseReq := { id := "a", idempotencyKey := none, strict := false, state := 2, value := {} }
private def demoOut := seqRun (defs .sqlite) (fun _ => .err) (completePromise demoReq) 5 10 { promises := [C01.exRow], seqP := 1 } (completePromise demoReq 5)
#guard (demoOut.2.map fun r => match r with | .promise s _ => s | _ => 0) == some S_CREATED
#guard demoOut.1.promises.map (·.state) == [2]

end Resonate.C02
