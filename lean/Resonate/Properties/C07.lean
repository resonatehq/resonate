/-
  Properties/C07.lean — a task has at most one holder; stale holders are fenced; leases are what the
  sweep respects.  Store level, both dialects — and (last section) in every reachable state of the kernel model.
-/
import Resonate.Proofs.TaskInv
import Resonate.Proofs.TaskRun
namespace Resonate.C07
open SqlSpec

variable (d : Dialect)

/-- **Any well-formed transaction** (the only kind the coroutines yield, Proofs/Wf.lean) keeps every task,
    its identity fields, never lowers its (counter, phase) rank and never touches a finished task. -/
theorem wf_transaction (cs : List Cmd) (db db' : Db) (rs : List Res) (hw : wfCmds cs = true)
    (h : db.execTx (defs d) cs = .ok (db', rs)) : TaskMono db db' :=
  taskMono_execTx d cs db db' rs (fun _ hc => wfCmdsP_updateTask_mem hw hc) h

/-- any sequence of batches of well-formed transactions, each committed or rolled back as a whole -/
theorem wf_batches : ∀ (bs : List (List (List Cmd))) (db : Db), (∀ b ∈ bs, ∀ tx ∈ b, wfCmds tx = true) →
    TaskMono db (db.execBatches (defs d) bs) := fun _ db hw =>
  execBatches_inv_tx (I := TaskMono db)
    (fun b hb tx htx _ _ _ hi hx => hi.trans (wf_transaction d tx _ _ _ (hw b hb tx htx) hx)) (TaskMono.refl db)

/-! ### what `TaskMono` says -/

theorem task_persists {db db' : Db} (h : TaskMono db db') (i : Nat) (r : TaskRow) (hr : db.tasks[i]? = some r) :
    ∃ r', db'.tasks[i]? = some r' ∧ TaskRowLe r r' :=
  ListLe.get h hr

theorem counter_monotone {a b : TaskRow} (h : TaskRowLe a b) : a.counter ≤ b.counter := by
  rcases h.rank with h | h <;> omega

/-- finished tasks (completed / timed out) never become active again — they never change at all -/
theorem finished_is_final {a b : TaskRow} (h : TaskRowLe a b) (hf : a.state = 8 ∨ a.state = 16) : b = a :=
  h.final (taskPhase_eq_two.mpr hf)

/-- **Fencing.** Once a task is claimed with counter `c`, in no later state is it unclaimed with counter `c`:
    a second claim with that counter can never find its guard `state ∈ {init, enqueued} ∧ counter = c` true. -/
theorem no_second_claim_with_same_counter {a b : TaskRow} (h : TaskRowLe a b) (hc : a.state = 4) :
    ¬ (b.counter = a.counter ∧ taskPhase b.state = 0) := by
  intro ⟨hcnt, hph⟩
  rcases h.rank with hlt | ⟨_, hle⟩
  · omega
  · have : taskPhase a.state = 1 := by unfold taskPhase; simp [hc]
    omega

/-- when the counter moved on, a request carrying the old counter matches no guard (`counter = ?`) -/
theorem stale_counter_rejected (db db' : Db) (c : UpdateTaskCmd) (r : Res) (hne : c.currentStates ≠ [])
    (hstale : ∀ row ∈ db.tasks, row.id = c.id → row.counter ≠ c.currentCounter)
    (h : db.exec (defs d) (.updateTask c) = .ok (db', r)) : db'.tasks = db.tasks ∧ r = .rows 0 := by
  rw [Db.exec, if_neg (by simpa using hne)] at h
  cases h
  have hnone : ∀ x ∈ db.tasks, (defs d).taskUpdate_where c x = false := fun x hx => Bool.eq_false_iff.mpr fun h =>
    let ⟨hid, _, hcnt⟩ := (taskUpdate_where_iff c x).mp h
    hstale x hx hid hcnt
  exact ⟨updateWhere_of_none _ _ _ hnone, congrArg Res.rows ((countP_eq_zero _ _).mpr hnone)⟩

/-- the update `ClaimTask` issues -/
def claimCmd (id pid : String) (counter attempt ttl exp : Int) : UpdateTaskCmd :=
  { id := id, processId := some pid, state := T_CLAIMED, counter := counter, attempt := attempt, ttl := ttl, expiresAt := exp, completedOn := none, currentStates := [T_INIT, T_ENQUEUED], currentCounter := counter }

/-- **A claim succeeds only on an unclaimed, unfinished task with the current counter**: if the claim's
    update reports a row, that row had the request's counter and a state matched by the guard {init, enqueued}
    (so not claimed = 4, completed = 8 or timed out = 16). -/
theorem claim_succeeds_only (db db' : Db) (id pid : String) (counter attempt ttl exp : Int) (n : Nat) (hn : 0 < n)
    (h : db.exec (defs d) (.updateTask (claimCmd id pid counter attempt ttl exp)) = .ok (db', .rows n)) :
    ∃ row ∈ db.tasks, row.id = id ∧ row.counter = counter ∧ row.state &&& 3 ≠ 0 ∧ row.state ≠ 4 ∧ row.state ≠ 8 ∧ row.state ≠ 16 := by
  have hpos : 0 < countP ((defs d).taskUpdate_where (claimCmd id pid counter attempt ttl exp)) db.tasks :=
    Res.rows.inj (exec_updateTask h).2 ▸ hn
  obtain ⟨x, hx, hxw⟩ := countP_pos.mp hpos
  -- the guard's mask, over {init, enqueued}, is 3
  obtain ⟨hid, (hmask : x.state &&& 3 ≠ 0), hcnt⟩ := (taskUpdate_where_iff _ x).mp hxw
  refine ⟨x, hx, hid, hcnt, hmask, ?_, ?_, ?_⟩ <;> (intro hs; rw [hs] at hmask; exact hmask (by decide))

/-- the claim command is well-formed, and so are the completion and the sweep / dispatch updates -/
theorem claimCmd_wf (id pid : String) (counter attempt ttl exp : Int) : wfUpdateTask (claimCmd id pid counter attempt ttl exp) = true := by
  simp [wfUpdateTask, claimCmd, taskStateActive, T_INIT, T_ENQUEUED, T_CLAIMED]

/-! ### leases: what the expiry sweep may select, and what a heartbeat does -/

/-- the sweep's read returns only tasks whose lease (or own timeout) has run out on the sweep's clock -/
theorem sweep_selects_only_expired (db : Db) (c : ReadTasksCmd) (rows : List TaskRow)
    (h : db.exec (defs d) (.readTasks c) = .ok (db, .tasks rows)) :
    ∀ r ∈ rows, ∃ r0 ∈ db.tasks, r0.id = r.id ∧ r0.counter = r.counter ∧ r0.state = r.state ∧ (r0.expiresAt ≤ c.time ∨ r0.timeout ≤ c.time) := by
  have hr := exec_res h
  injection hr with hr
  intro r hrm
  -- `hr : rows = (takeLimit limit (mergeSort (filter WHERE db.tasks))).map proj`: a row of it is the projection of a stored
  -- row that meets the WHERE clause (`mem_select`), neither the limit nor the sort adding any
  obtain ⟨r0, hm, hw, rfl⟩ := mem_select (fun y hy => List.mem_mergeSort.mp (mem_takeLimit _ _ _ hy)) (hr ▸ hrm)
  simp only [defs, taskSelectAll_where, Bool.and_eq_true, Bool.or_eq_true, decide_eq_true_eq] at hw
  exact ⟨r0, hm, rfl, rfl, rfl, hw.2⟩

/-- a heartbeat extends exactly the leases of the claimed tasks of that process, to `time + ttl`;
    nothing else changes (no holder change, no state change, no counter change) -/
theorem heartbeat_extends_own_leases (db db' : Db) (c : HeartbeatTasksCmd) (r : Res)
    (h : db.exec (defs d) (.heartbeatTasks c) = .ok (db', r)) :
    db'.tasks = db.tasks.map (fun t => if sqlEqO t.processId (some c.processId) && t.state == 4 then { t with expiresAt := c.time + t.ttl } else t) := by
  cases h; rfl

/-- the sweep coroutine only ever updates tasks it has just read, guarded by exactly the state and the
    counter it read: re-init with `counter + 1` while the task's own timeout lies ahead, else timed out -/
theorem sweep_update_shape (t : Time) (r : TaskRow) :
    (if t < r.timeout then
      Cmd.updateTask { id := r.id, processId := none, state := T_INIT, counter := r.counter + 1, attempt := 0, ttl := 0, expiresAt := 0, completedOn := none, currentStates := [r.state], currentCounter := r.counter }
     else
      Cmd.updateTask { id := r.id, processId := none, state := T_TIMEDOUT, counter := r.counter, attempt := r.attempt, ttl := 0, expiresAt := 0, completedOn := some r.timeout, currentStates := [r.state], currentCounter := r.counter })
    = (if t < r.timeout then
      Cmd.updateTask { id := r.id, processId := none, state := 1, counter := r.counter + 1, attempt := 0, ttl := 0, expiresAt := 0, completedOn := none, currentStates := [r.state], currentCounter := r.counter }
     else
      Cmd.updateTask { id := r.id, processId := none, state := 16, counter := r.counter, attempt := r.attempt, ttl := 0, expiresAt := 0, completedOn := some r.timeout, currentStates := [r.state], currentCounter := r.counter }) := rfl

/-! ### every run of the server -/

/-- **Between ANY two states along ANY run** of the kernel model — any requests (of all 17 kinds, passing the front ends'
    state validation), ticks, completion batches, store batches of any composition and order with injected failures,
    router / sender outcomes, any queue / batch / pool sizes, shutdown, crashes and restarts — from a database whose task
    states are legal: the task table has only moved forward (`TaskMono`).  Spelled out by the lemmas above: no task
    disappears or changes identity (`task_persists`), counters never decrease (`counter_monotone`), a completed or
    timed-out task never changes again (`finished_is_final`), and a task claimed under counter `c` is never again
    claimable under `c` (`no_second_claim_with_same_counter`): a stale holder is fenced in every execution.
    What carries it (Proofs/Walk.lean, Proofs/WInv.lean, Proofs/TaskRun.lean): every `UpdateTask` any of the 22
    coroutines can yield is disciplined (`wfUpdateTask`) — for the lease sweep, which guards by the state it read,
    because every task row a store result carries has a legal state, an invariant of the run itself. -/
theorem fencing_every_run (env : Env) (db0 : Db) (h0 : LegalTasks db0) (cs1 cs2 : List Choice)
    (h1 : ∀ c ∈ cs1, WInv.ChoiceOk LegalCpl c) (h2 : ∀ c ∈ cs2, WInv.ChoiceOk LegalCpl c) :
    TaskMono ((Sys.boot env d (defs d) db0).run cs1).db ((Sys.boot env d (defs d) db0).run (cs1 ++ cs2)).db :=
  task_discipline_between d env db0 h0 cs1 cs2 h1 h2

/-- a task that is completed or timed out in some reachable state (e.g. completed together with its promise, C08.finished_together)
    is the very same row in every later state of every continuation of the run: it can never be claimed again -/
theorem finished_task_is_final_every_run (env : Env) (db0 : Db) (h0 : LegalTasks db0) (cs1 cs2 : List Choice)
    (h1 : ∀ c ∈ cs1, WInv.ChoiceOk LegalCpl c) (h2 : ∀ c ∈ cs2, WInv.ChoiceOk LegalCpl c)
    (i : Nat) (r : TaskRow) (hr : ((Sys.boot env d (defs d) db0).run cs1).db.tasks[i]? = some r) (hf : r.state = 8 ∨ r.state = 16) :
    ((Sys.boot env d (defs d) db0).run (cs1 ++ cs2)).db.tasks[i]? = some r := by
  obtain ⟨r', hr', hle⟩ := task_persists (fencing_every_run d env db0 h0 cs1 cs2 h1 h2) i r hr
  rw [hr', finished_is_final hle hf]

/-- … and every stored task is, in every reachable state, in one of the five states the store writes -/
theorem legal_states_every_run (env : Env) (db0 : Db) (h0 : LegalTasks db0) (cs : List Choice)
    (h : ∀ c ∈ cs, WInv.ChoiceOk LegalCpl c) : LegalTasks ((Sys.boot env d (defs d) db0).run cs).db :=
  (task_discipline_every_run d env db0 h0 cs h).db.1

/-- the hypothesis on the run is satisfiable by a run that does something: a claim, ticks, a store batch, a transport outcome -/
example : ∀ c ∈ [Choice.submit "r1" (.claimTask { id := "t", counter := 1, processId := "w", ttl := 5 }), .tick 1,
    .execStore [(⟨"r1", 0⟩, .ok)], .tick 2, .complete ⟨"EnqueueTasks:1", 1⟩ (.sender true), .crash], WInv.ChoiceOk LegalCpl c := by
  intro c hc
  simp only [List.mem_cons, List.not_mem_nil, or_false] at hc
  rcases hc with rfl | rfl | rfl | rfl | rfl | rfl <;> simp [WInv.ChoiceOk, Req.StateOk, LegalCpl]

/-! ### non-vacuity -/
def exTask : TaskRow := { id := "t", sortId := 1, processId := some "w", state := 4, rootPromiseId := "p", recv := "x", mesg := ⟨"invoke", "p", "p"⟩, timeout := 100, counter := 3, attempt := 0, ttl := 5, expiresAt := 20, createdOn := some 0, completedOn := none }
example : TaskRowLe exTask { exTask with state := 1, counter := 4, processId := none } := by
  refine ⟨rfl, rfl, rfl, rfl, rfl, rfl, rfl, Or.inl (by decide), ?_⟩
  intro h; simp [taskPhase, exTask] at h
example : wfUpdateTask (claimCmd "t" "w" 3 0 5 20) = true := claimCmd_wf ..

end Resonate.C07
