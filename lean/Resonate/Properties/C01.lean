/-
  Properties/C01.lean — promise completion is write-once; creation fields are immutable; a created
  promise never disappears.  Stated for both dialects (`d` universally quantified).
-/
import Resonate.Proofs.PromiseInv
import Resonate.Proofs.PromIds
import Resonate.Proofs.SysDb
namespace Resonate.C01
open SqlSpec

/-- **Store, any command.** All 27 command kinds with arbitrary arguments on an arbitrary database. -/
theorem any_command (d : Dialect) (db db' : Db) (cmd : Cmd) (r : Res)
    (h : db.exec (defs d) cmd = .ok (db', r)) : PromMono db db' := promMono_exec d db db' cmd r h

/-- **Store, any history.** Any sequence of batches of transactions of arbitrary commands, each batch
    committed or rolled back as a whole. -/
theorem any_batches (d : Dialect) (db : Db) (bs : List (List (List Cmd))) : PromMono db (db.execBatches (defs d) bs) :=
  execBatches_inv (defs d) (PromMono db)
    (fun _ _ c r hi hx => hi.trans (promMono_exec d _ _ c r hx)) bs db (PromMono.refl db)

/-- **System, any execution.** Between ANY two states along ANY run of the kernel model — any requests,
    ticks, batch compositions and orders, injected failures before/after commit, queue/batch/pool sizes,
    router/sender outcomes, shutdown, crashes and restarts. -/
theorem any_run (env : Env) (d : Dialect) (db0 : Db) (cs1 cs2 : List Choice) :
    PromMono ((Sys.boot env d (defs d) db0).run cs1).db ((Sys.boot env d (defs d) db0).run (cs1 ++ cs2)).db := by
  rw [run_append]
  apply run_rel PromMono PromMono.refl (fun _ _ _ => PromMono.trans)
  intro db db' c r h
  rw [run_g] at h
  exact promMono_exec d db db' c r h

/-! ### what `PromMono` says, spelled out -/

/-- a promise is still there later, at the same position, with every creation field unchanged -/
theorem never_disappears {db db' : Db} (h : PromMono db db') (i : Nat) (r : PromiseRow) (hr : db.promises[i]? = some r) :
    ∃ r', db'.promises[i]? = some r' ∧ r'.id = r.id ∧ r'.sortId = r.sortId ∧ r'.paramHeaders = r.paramHeaders ∧
      r'.paramData = r.paramData ∧ r'.timeout = r.timeout ∧ r'.idempotencyKeyForCreate = r.idempotencyKeyForCreate ∧
      r'.tags = r.tags ∧ r'.createdOn = r.createdOn := by
  obtain ⟨b, hb, hle⟩ := ListLe.get h hr
  exact ⟨b, hb, hle.1.symm, hle.2.1.symm, hle.2.2.1.symm, hle.2.2.2.1.symm, hle.2.2.2.2.1.symm, hle.2.2.2.2.2.1.symm,
    hle.2.2.2.2.2.2.1.symm, hle.2.2.2.2.2.2.2.1.symm⟩

/-- once a promise has left pending, its whole row — state, value, completion time, completion
    idempotency key — is the same for ever -/
theorem completed_is_final {db db' : Db} (h : PromMono db db') (i : Nat) (r : PromiseRow) (hr : db.promises[i]? = some r)
    (hs : r.state ≠ 1) : db'.promises[i]? = some r := by
  obtain ⟨b, hb, hle⟩ := ListLe.get h hr
  exact hle.final hs ▸ hb

/-- a pending promise either stays as it is or moves to exactly one of resolved, rejected, canceled,
    timed-out (2, 4, 8, 16) -/
theorem leaves_pending_to_completed {db db' : Db} (h : PromMono db db') (i : Nat) (r : PromiseRow)
    (hr : db.promises[i]? = some r) (hs : r.state = 1) :
    ∃ r', db'.promises[i]? = some r' ∧ (r' = r ∨ r'.state = 2 ∨ r'.state = 4 ∨ r'.state = 8 ∨ r'.state = 16) := by
  obtain ⟨b, hb, hle⟩ := ListLe.get h hr
  exact ⟨b, hb, (hle.pending hs).imp_right promiseStateOk_iff.mp⟩

/-- no statement ever removes a promise -/
theorem count_monotone {db db' : Db} (h : PromMono db db') : db.promises.length ≤ db'.promises.length :=
  ListLe.length_le h

/-! ### the two headline clauses, stated directly over runs of the kernel model -/

/-- **Every run: write-once.** A promise seen completed at any point of any run is stored, byte for byte
    (state, value, completion time, completion key, creation fields), at the same position at every later
    point of that run — whatever requests, races, failures, crashes and restarts lie in between. -/
theorem completed_is_final_every_run (env : Env) (d : Dialect) (db0 : Db) (cs1 cs2 : List Choice) (i : Nat) (r : PromiseRow)
    (hr : ((Sys.boot env d (defs d) db0).run cs1).db.promises[i]? = some r) (hs : r.state ≠ 1) :
    ((Sys.boot env d (defs d) db0).run (cs1 ++ cs2)).db.promises[i]? = some r :=
  completed_is_final (any_run env d db0 cs1 cs2) i r hr hs

/-- **Every run: creation fields are immutable and a promise never disappears.** -/
theorem creation_fields_every_run (env : Env) (d : Dialect) (db0 : Db) (cs1 cs2 : List Choice) (i : Nat) (r : PromiseRow)
    (hr : ((Sys.boot env d (defs d) db0).run cs1).db.promises[i]? = some r) :
    ∃ r', ((Sys.boot env d (defs d) db0).run (cs1 ++ cs2)).db.promises[i]? = some r' ∧ r'.id = r.id ∧ r'.sortId = r.sortId ∧
      r'.paramHeaders = r.paramHeaders ∧ r'.paramData = r.paramData ∧ r'.timeout = r.timeout ∧
      r'.idempotencyKeyForCreate = r.idempotencyKeyForCreate ∧ r'.tags = r.tags ∧ r'.createdOn = r.createdOn :=
  never_disappears (any_run env d db0 cs1 cs2) i r hr

/-- **Every run: at most one transition.** A pending promise is, at every later point of the run, either
    still the same row or in exactly one of the four completed states — and by `completed_is_final_every_run`
    it then stays there: no run contains two different completions of one promise. -/
theorem at_most_one_completion_every_run (env : Env) (d : Dialect) (db0 : Db) (cs1 cs2 cs3 : List Choice) (i : Nat)
    (r r2 : PromiseRow)
    (hr : ((Sys.boot env d (defs d) db0).run cs1).db.promises[i]? = some r)
    (h2 : ((Sys.boot env d (defs d) db0).run (cs1 ++ cs2)).db.promises[i]? = some r2) (hs2 : r2.state ≠ 1) :
    ((Sys.boot env d (defs d) db0).run (cs1 ++ cs2 ++ cs3)).db.promises[i]? = some r2 ∧
      (r.state = 1 → r2.state = 2 ∨ r2.state = 4 ∨ r2.state = 8 ∨ r2.state = 16) := by
  refine ⟨completed_is_final_every_run env d db0 (cs1 ++ cs2) cs3 i r2 h2 hs2, fun hs => ?_⟩
  obtain ⟨r', hr', hc⟩ := leaves_pending_to_completed (any_run env d db0 cs1 cs2) i r hr hs
  rw [h2] at hr'; injection hr' with hr'; subst hr'
  rcases hc with hc | hc
  · exact absurd (hc ▸ hs) hs2
  · exact hc

/-! ### responses built from the coroutine's own write are the stored row (T3 helper) -/

/-- If a coroutine read row `r` (pending) at some earlier database `db1`, and its guarded completion block
    executed later on `db2` reports one affected row, then — whatever happened in between — the row now
    stored under that id is exactly `r` with the command's completion fields: the body the coroutine
    builds from `cmd` is the stored promise. -/
theorem own_completion_is_stored (d : Dialect) (db1 db2 db3 : Db) (hm : PromMono db1 db2) (hu : PromIds db2)
    (i : Nat) (r : PromiseRow) (hr : db1.promises[i]? = some r) (cmd : UpdatePromiseCmd) (hid : cmd.id = r.id)
    (res : Res) (hx : db2.exec (defs d) (.updatePromise cmd) = .ok (db3, res)) (hone : res = .rows 1) :
    db3.promises[i]? = some (promiseUpdate_set cmd r) := by
  obtain ⟨x, hx2, hle⟩ := ListLe.get hm hr
  obtain ⟨_, hdb, hres⟩ := exec_updatePromise hx
  -- one row matched the guard; by id uniqueness it is `x`, the row at position `i`, so `x` is pending
  have hcount : countP ((defs d).promiseUpdate_where cmd) db2.promises = 1 := Res.rows.inj (hone.symm.trans hres).symm
  obtain ⟨y, hym, hw⟩ := countP_pos.mp (hcount ▸ Nat.one_pos)
  have hyw := (promiseUpdate_where_iff cmd y).mp hw
  have hyx : y = x := promIds_unique hu hym (List.mem_of_getElem? hx2) (by rw [hyw.1, hid, hle.1])
  -- and a pending row is what it was: `r`
  have hyr : y = r := pending_row_unchanged hm hu (List.mem_of_getElem? hr) hym (hyw.1.trans hid) hyw.2
  subst hyx hyr
  rw [hdb]
  simp only [updateWhere, List.getElem?_map, hx2, Option.map_some, hw, if_true]
  rfl

/-! ### non-vacuity -/

def exRow : PromiseRow := { id := "a", sortId := 1, state := 1, paramHeaders := [], paramData := "", valueHeaders := none, valueData := none, timeout := 10, idempotencyKeyForCreate := none, idempotencyKeyForComplete := none, tags := [], createdOn := some 0, completedOn := none }
def exDb : Db := { promises := [exRow], seqP := 1 }

example : exDb.promises[0]? = some exRow ∧ exRow.state = 1 := ⟨rfl, rfl⟩
example : PromIds exDb := by simp [PromIds, exDb]

end Resonate.C01
