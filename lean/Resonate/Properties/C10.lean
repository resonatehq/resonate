/-
  Properties/C10.lean — schedules fire every cron occurrence exactly once, in order, atomically.
  Cron is abstract: `next` is any function with `IsNext Occ next` (least occurrence strictly after);
  robfig/cron itself is modelled, not verified (the executable grid model in Model/Env.lean is validated
  against it by sysdiff on every value a run needs).
-/
import Resonate.Proofs.CoBasics
import Resonate.Proofs.StoreBasics
import Resonate.Model.SqlSpec
import Resonate.Model.Env
namespace Resonate.C10
open Coro SqlSpec

/-- `next t` is the least occurrence strictly after `t` -/
def IsNext (Occ : Int → Prop) (next : Int → Int) : Prop :=
  ∀ t, Occ (next t) ∧ t < next t ∧ ∀ o, Occ o → t < o → next t ≤ o

/-- the n-th occurrence after `t0` -/
def nthAfter (next : Int → Int) (t0 : Int) : Nat → Int
  | 0 => next t0
  | n + 1 => next (nthAfter next t0 n)

/-- occurrences are visited in strictly increasing order: none twice -/
theorem nth_strictly_increasing (Occ : Int → Prop) (next : Int → Int) (h : IsNext Occ next) (t0 : Int) (n : Nat) :
    nthAfter next t0 n < nthAfter next t0 (n + 1) := (h _).2.1

/-- and none is skipped: every occurrence after `t0` up to the n-th one is one of the first n -/
theorem none_skipped (Occ : Int → Prop) (next : Int → Int) (h : IsNext Occ next) (t0 : Int) :
    ∀ (n : Nat) (o : Int), Occ o → t0 < o → o ≤ nthAfter next t0 n → ∃ i, i ≤ n ∧ o = nthAfter next t0 i := by
  intro n
  induction n with
  -- `next s` is the least occurrence after `s`, so an occurrence in `(s, next s]` is `next s`
  | zero => exact fun o ho hlt hle => ⟨0, Nat.le_refl _, Int.le_antisymm hle ((h _).2.2 o ho hlt)⟩
  | succ n ih =>
    intro o ho hlt hle
    by_cases hc : o ≤ nthAfter next t0 n
    · obtain ⟨i, hi, he⟩ := ih o ho hlt hc
      exact ⟨i, Nat.le_succ_of_le hi, he⟩
    · exact ⟨n + 1, Nat.le_refl _, Int.le_antisymm hle ((h _).2.2 o ho (Int.lt_of_not_ge hc))⟩

variable (d : Dialect)

/-! ### the store: a firing advances the schedule by exactly one occurrence, or does nothing -/

theorem exec_updateSchedule (db : Db) (c : UpdateScheduleCmd) :
    db.exec (defs d) (.updateSchedule c) =
      .ok ({ db with schedules := updateWhere (scheduleUpdate_where c) (scheduleUpdate_set c) db.schedules },
           .rows (countP (scheduleUpdate_where c) db.schedules)) := rfl

/-- the guard of `UpdateSchedule`: `id = c.id AND next_run_time = c.lastRunTime` (never true of a NULL `lastRunTime`) -/
theorem scheduleUpdate_where_some (c : UpdateScheduleCmd) (occ : Int) (hl : c.lastRunTime = some occ) :
    scheduleUpdate_where c = fun r => r.id == c.id && r.nextRunTime == occ := by
  funext r; rw [scheduleUpdate_where, hl]; rfl

theorem updateSchedule_noop (db : Db) (c : UpdateScheduleCmd) (h : ∀ r ∈ db.schedules, scheduleUpdate_where c r = false) :
    ∃ db', db.exec (defs d) (.updateSchedule c) = .ok (db', .rows 0) ∧ db'.schedules = db.schedules :=
  ⟨_, by rw [exec_updateSchedule, (countP_eq_zero _ _).mpr h], updateWhere_of_none _ _ _ h⟩

/-- `UpdateSchedule id (last := occ) (next := nx)` moves the schedule from occurrence `occ` to `nx` iff its
    next run time still IS `occ`; any other row — and the addressed row when it has already moved on — is
    untouched, and the reported row count is the number of rows moved -/
theorem update_schedule_spec (db : Db) (c : UpdateScheduleCmd) (occ : Int) (hl : c.lastRunTime = some occ) :
    db.exec (defs d) (.updateSchedule c) =
      .ok ({ db with schedules := db.schedules.map fun r =>
                if r.id == c.id && r.nextRunTime == occ then { r with lastRunTime := some r.nextRunTime, nextRunTime := c.nextRunTime } else r },
           .rows ((db.schedules.filter fun r => r.id == c.id && r.nextRunTime == occ).length)) := by
  rw [exec_updateSchedule, scheduleUpdate_where_some c occ hl]; rfl

/-- a firing whose occurrence has already been fired (the schedule moved on) changes no schedule: the same
    occurrence can never advance a schedule twice -/
theorem stale_firing_is_noop (db : Db) (c : UpdateScheduleCmd) (occ : Int) (hl : c.lastRunTime = some occ)
    (hmoved : ∀ r ∈ db.schedules, r.id = c.id → r.nextRunTime ≠ occ) :
    ∃ db', db.exec (defs d) (.updateSchedule c) = .ok (db', .rows 0) ∧ db'.schedules = db.schedules := by
  refine updateSchedule_noop d db c fun r hr => ?_
  rw [scheduleUpdate_where_some c occ hl]
  exact Bool.and_eq_false_imp.mpr fun hid => beq_false_of_ne (hmoved r hr (eq_of_beq hid))

/-- a schedule without a recorded occurrence (`LastRunTime = nil`) can never be advanced -/
theorem update_without_occurrence_is_noop (db : Db) (c : UpdateScheduleCmd) (hl : c.lastRunTime = none) :
    ∃ db', db.exec (defs d) (.updateSchedule c) = .ok (db', .rows 0) ∧ db'.schedules = db.schedules :=
  updateSchedule_noop d db c fun r _ => by rw [scheduleUpdate_where, hl]; exact Bool.and_false _

/-- the due-schedule read returns only schedules whose next run time has been reached (never early) -/
theorem due_guard (c : ReadSchedulesCmd) (r : ScheduleRow) : scheduleSelectAll_where c r = true ↔ r.nextRunTime ≤ c.nextRunTime := by
  simp [scheduleSelectAll_where]

/-- creation stores the first occurrence after the creation time; a duplicate id inserts nothing -/
theorem create_schedule_row (c : CreateScheduleCmd) (n : Nat) :
    (scheduleInsert_row c n).nextRunTime = c.nextRunTime ∧ (scheduleInsert_row c n).lastRunTime = none ∧ (scheduleInsert_row c n).cron = c.cron ∧
    (scheduleInsert_row c n).promiseId = c.promiseId ∧ (scheduleInsert_row c n).promiseTimeout = c.promiseTimeout ∧
    (scheduleInsert_row c n).promiseTags = c.promiseTags ∧ (scheduleInsert_row c n).promiseParamData = c.promiseParam.data := ⟨rfl, rfl, rfl, rfl, rfl, rfl, rfl⟩

/-- after a delete there is no row with that id left, so no later cycle can read it as due -/
theorem delete_removes (db db' : Db) (id : String) (r : Res) (h : db.exec (defs d) (.deleteSchedule ⟨id⟩) = .ok (db', r)) :
    ∀ s ∈ db'.schedules, s.id ≠ id := by
  cases h
  intro s hs
  simpa [defs, scheduleDelete_where] using (List.mem_filter.mp hs).2

/-! ### the coroutines -/

/-- `CreateSchedule` computes the next run time from the creation tick: `next(createdOn)` -/
theorem create_uses_next_after_creation (env : Env) (req : CreateScheduleReq) (t0 t nx : Time) (hn : env.cronNext req.cron t = some nx) :
    ∃ k, (createSchedule env req t0).next t [.store [.schedules []]] =
      .yield [.store [.createSchedule { id := req.id, description := req.description, cron := req.cron, tags := req.tags, promiseId := req.promiseId, promiseTimeout := req.promiseTimeout, promiseParam := req.promiseParam, promiseTags := req.promiseTags, nextRunTime := nx, idempotencyKey := req.idempotencyKey, createdOn := t }]] k := by
  unfold createSchedule
  simp only [Co.next, readScheduleRow, hn]
  exact ⟨_, rfl⟩

/-- re-creating an existing schedule id writes nothing: OK iff the idempotency key matches, else already-exists -/
theorem recreate_is_idempotent (env : Env) (req : CreateScheduleReq) (t0 t : Time) (r : ScheduleRow) :
    (createSchedule env req t0).next t [.store [.schedules [r]]] =
      .done (some (.schedule (if keyMatch r.idempotencyKey req.idempotencyKey then S_OK else S_SCHEDULE_ALREADY_EXISTS) (some r.toSchedule))) := by
  unfold createSchedule
  simp only [Co.next, readScheduleRow, ScheduleRow.toSchedule]
  rfl

/-- the promise a firing creates: id from the template for that occurrence, timeout = occurrence + configured
    promise timeout, the configured parameter, tags plus the two marker tags; and the schedule is advanced to
    `next(occurrence)` guarded by `next_run_time = occurrence` — both in ONE transaction (see `firing_tx`) -/
def firingItem (env : Env) (t : Time) (r : ScheduleRow) : Option (CreatePromiseCmd × Cmd) :=
  let s := r.toSchedule
  match env.cronNext s.cron s.nextRunTime, env.genId s.promiseId s.id s.nextRunTime with
  | some next, some id =>
    some ({ id := id, param := s.promiseParam, timeout := s.promiseTimeout + s.nextRunTime, idempotencyKey := none, tags := (s.promiseTags.set "resonate:schedule" s.id).set "resonate:invocation" "true", createdOn := t },
          .updateSchedule { id := s.id, lastRunTime := some s.nextRunTime, nextRunTime := next })
  | _, _ => none

theorem firing_fields (env : Env) (t : Time) (r : ScheduleRow) (pc : CreatePromiseCmd) (u : Cmd) (h : firingItem env t r = some (pc, u)) :
    env.genId r.promiseId r.id r.nextRunTime = some pc.id ∧ pc.timeout = r.promiseTimeout + r.nextRunTime ∧
    pc.param = { headers := r.promiseParamHeaders, data := r.promiseParamData } ∧
    pc.tags = (r.promiseTags.set "resonate:schedule" r.id).set "resonate:invocation" "true" ∧
    ∃ nx, env.cronNext r.cron r.nextRunTime = some nx ∧ u = .updateSchedule { id := r.id, lastRunTime := some r.nextRunTime, nextRunTime := nx } := by
  unfold firingItem at h
  simp only [ScheduleRow.toSchedule] at h
  split at h
  · rename_i nx id h1 h2
    injection h with h; injection h with hp hu
    subst hp; subst hu
    exact ⟨h2, rfl, rfl, rfl, nx, h1, rfl⟩
  · cases h

/-- the transaction of one firing: `[create the promise (with its task when routed), UpdateSchedule]` — the
    promise and the schedule's advance commit or fail together -/
theorem firing_tx (pc : CreatePromiseCmd) (u : Cmd) (recv : String) :
    ([Cmd.createPromise pc, u].length = 2) ∧
    ([Cmd.createPromiseAndTask { promiseCommand := pc, taskCommand := { id := invokeId pc.id, recv := recv, mesg := { type := "invoke", root := pc.id, leaf := pc.id }, timeout := pc.timeout, processId := none, state := T_INIT, ttl := 0, expiresAt := 0, createdOn := pc.createdOn } }, u].length = 2) := ⟨rfl, rfl⟩

/-! ### the executable cron model satisfies the abstract hypothesis on its grid -/

/-- the grid of period `p`: the occurrences are the multiples of `p`, the next one after `t` is `(t / p + 1) * p` -/
theorem grid (p : Int) (hp : 0 < p) : IsNext (fun o => o % p = 0) (fun t => (t / p + 1) * p) := by
  intro t
  refine ⟨Int.mul_emod_left _ _, Int.lt_ediv_add_one_mul_self t hp, fun o ho hlt => ?_⟩
  -- `o = (o / p) * p` is a multiple above `t`, so `t / p < o / p`
  have ho' : o / p * p = o := Int.ediv_mul_cancel (Int.dvd_of_emod_eq_zero ho)
  have hlt' : t / p + 1 ≤ o / p := Int.ediv_lt_of_lt_mul hp (by rw [ho']; exact hlt)  -- on `Int`, `a < b` is `a + 1 ≤ b`
  exact ho' ▸ Int.mul_le_mul_of_nonneg_right hlt' (Int.le_of_lt hp)

theorem grid_1s : IsNext (fun o => o % 1000 = 0) (fun t => (t / 1000 + 1) * 1000) := grid 1000 (by decide)
theorem grid_2s : IsNext (fun o => o % 2000 = 0) (fun t => (t / 2000 + 1) * 2000) := grid 2000 (by decide)
theorem grid_5s : IsNext (fun o => o % 5000 = 0) (fun t => (t / 5000 + 1) * 5000) := grid 5000 (by decide)
theorem grid_1m : IsNext (fun o => o % 60000 = 0) (fun t => (t / 60000 + 1) * 60000) := grid 60000 (by decide)

/-- the executable model used by the driver is one of these grids -/
theorem cronNextModel_grid (cron : String) (p : Int) (t : Int) (h : cronGrid cron = some p) : cronNextModel cron t = some ((t / p + 1) * p) := by
  simp [cronNextModel, h]

/-! ### non-vacuity -/
example : cronNextModel "* * * * * *" 1500 = some 2000 := by decide
example : nthAfter (fun t => (t / 1000 + 1) * 1000) 1500 2 = 4000 := by decide

end Resonate.C10
