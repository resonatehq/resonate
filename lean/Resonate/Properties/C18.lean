/-
  Properties/C18.lean — the poll transport hands each accepted message to exactly one right listener.

  Model: Model/Poll.lean (`connections.add / rmv / get`, `PollWorker.Process`), tied to
  internal/app/plugins/poll/poll.go by the `polldiff` correspondence harness, which drives the real
  registry and worker code through the build-tag `verif` hook.  The choice among the members of a
  group (`rand.Intn`) is the parameter `pick`: every theorem holds for every pick.
-/
import Resonate.Proofs.PollInv
import Resonate.Proofs.ListBasics
namespace Resonate.Poll

/-- registry invariant.  `closedOnce` and `open_` are exactly the conditions under which Go's
    `close(ch)` and `ch <- x` do not panic: no channel is closed twice, and no registered
    (hence: sendable) channel is closed. -/
structure Inv (s : St) : Prop where
  bound : s.conns.length ≤ s.max
  distinct : s.conns.Pairwise (fun a b => ¬ SameAddr a b)
  handles : (s.conns.map (·.handle)).Nodup
  fresh : ∀ c ∈ s.conns, c.handle < s.next
  closedFresh : ∀ h ∈ s.closed, h < s.next
  open_ : ∀ c ∈ s.conns, c.handle ∉ s.closed
  closedOnce : s.closed.Nodup
  room : ∀ c ∈ s.conns, c.buf.length ≤ c.cap

theorem inv_init (max : Nat) : Inv { max := max } := by
  constructor <;> simp

/-- The channels made so far that are registered or closed.  Five of the eight clauses of `Inv` say together
    that these are pairwise different and below `next`: a channel is made once, registered at most once, and
    moves from the registry to `closed`, never back. -/
def used (s : St) : List Nat := s.conns.map (·.handle) ++ s.closed

theorem Inv.used_nodup {s : St} (hi : Inv s) : (used s).Nodup := by
  -- the registered handles differ, the closed ones differ, and a handle both registered and closed would be a closed registered channel
  refine List.nodup_append.mpr ⟨hi.handles, hi.closedOnce, fun a ha b hb hab => ?_⟩
  obtain ⟨c, hc, he⟩ := List.mem_map.mp ha
  subst hab he
  exact hi.open_ c hc hb

theorem Inv.used_lt {s : St} (hi : Inv s) : ∀ h ∈ used s, h < s.next := by
  intro h hh
  rcases List.mem_append.mp hh with hm | hm
  · obtain ⟨c, hc, rfl⟩ := List.mem_map.mp hm
    exact hi.fresh c hc
  · exact hi.closedFresh h hm

theorem Inv.of_used {s : St} (bound : s.conns.length ≤ s.max) (distinct : s.conns.Pairwise (fun a b => ¬ SameAddr a b))
    (room : ∀ c ∈ s.conns, c.buf.length ≤ c.cap) (nd : (used s).Nodup) (lt : ∀ h ∈ used s, h < s.next) : Inv s :=
  have ⟨hconns, hclosed, hdisj⟩ := List.nodup_append.mp nd
  { bound, distinct, room
    handles := hconns
    closedOnce := hclosed
    fresh := fun _ hc => lt _ (List.mem_append_left _ (List.mem_map_of_mem hc))
    closedFresh := fun h hh => lt h (List.mem_append_right _ hh)
    open_ := fun _ hc hcl => hdisj _ (List.mem_map_of_mem hc) _ hcl rfl }

/-- registrations are dropped, and what was dropped is closed -/
theorem Inv.drop {s s' : St} (hi : Inv s) (hsub : s'.conns.Sublist s.conns) (hu : (used s').Perm (used s))
    (hmax : s'.max = s.max) (hnext : s'.next = s.next) : Inv s' :=
  .of_used (hmax ▸ Nat.le_trans hsub.length_le hi.bound) (hi.distinct.sublist hsub) (fun c hc => hi.room c (hsub.subset hc))
    (hu.nodup_iff.mpr hi.used_nodup) (fun h hh => hnext ▸ hi.used_lt h (hu.subset hh))

/-- only the streams change -/
theorem Inv.setBufs {s : St} (hi : Inv s) (k : Conn → List String) (hk : ∀ x ∈ s.conns, (k x).length ≤ x.cap)
    (l : List (Nat × String)) : Inv { s with conns := s.conns.map fun x => { x with buf := k x }, log := l } :=
  -- the handles are untouched
  have hu : used { s with conns := s.conns.map fun x => { x with buf := k x }, log := l } = used s :=
    congrArg (· ++ s.closed) (List.map_map ..)
  .of_used ((List.length_map ..).symm ▸ hi.bound) (List.pairwise_map.mpr hi.distinct) (List.forall_mem_map.mpr hk)
    (hu ▸ hi.used_nodup) (hu ▸ hi.used_lt)

/-- a channel is made (`next` moves past its handle), and registered or closed at once -/
theorem Inv.new {s s' : St} (hi : Inv s) {x : Nat} (hx : s.next ≤ x) (hnext : s'.next = x + 1)
    (hu : (used s').Perm (x :: used s)) (bound : s'.conns.length ≤ s'.max)
    (distinct : s'.conns.Pairwise (fun a b => ¬ SameAddr a b)) (room : ∀ c ∈ s'.conns, c.buf.length ≤ c.cap) : Inv s' := by
  refine .of_used bound distinct room (hu.nodup_iff.mpr (List.nodup_cons.mpr ⟨fun hm => ?_, hi.used_nodup⟩)) fun h hh => ?_
  · exact Nat.lt_irrefl _ (Nat.lt_of_lt_of_le (hi.used_lt x hm) hx)
  · rw [hnext]
    rcases List.mem_cons.mp (hu.subset hh) with rfl | hm
    · exact Nat.lt_succ_self _
    · exact Nat.lt_succ_of_lt (Nat.lt_of_lt_of_le (hi.used_lt h hm) hx)

theorem inv_rmvFirst {s : St} (hi : Inv s) (g i : String) (h : Option Nat) :
    Inv { s with conns := (rmvFirst s.conns g i h).1,
                 closed := match (rmvFirst s.conns g i h).2 with | some x => x :: s.closed | none => s.closed } :=
  -- the connection removed, if any, is closed: `rmvFirst_handles` says `used` is permuted
  hi.drop (rmvFirst_sublist ..) (rmvFirst_handles ..) rfl rfl

theorem inv_shutdown {s : St} (hi : Inv s) : Inv (shutdown s) :=
  -- closing everything moves the handles from the registry to the front of `closed`: `used` is literally the same list
  hi.drop (List.nil_sublist _) (.refl _) rfl rfl

theorem inv_add {s : St} (hi : Inv s) (c : Conn) (hfresh : s.next ≤ c.handle) (hbuf : c.buf = []) :
    Inv (add { s with next := c.handle + 1 } c) := by
  -- `add` first removes (and closes) an older connection of the address, then the new channel is made: `Inv.new` on `h1`
  have h1 := inv_rmvFirst hi c.group c.id none
  by_cases hlen : (rmvFirst s.conns c.group c.id none).1.length ≥ s.max
  · -- at the limit: the new connection is closed at once and not registered
    rw [add_full (s := { s with next := c.handle + 1 }) hlen]
    exact h1.new hfresh rfl List.perm_middle h1.bound h1.distinct h1.room
  · rw [add_room (s := { s with next := c.handle + 1 }) hlen]
    refine h1.new hfresh rfl ?_ ?_ ?_ ?_
    · unfold used; rw [List.map_append, List.append_assoc]; exact List.perm_middle
    · rw [List.length_append]; exact Nat.lt_of_not_le hlen
    · -- the older connection of this address has just been removed
      exact List.pairwise_append.mpr ⟨h1.distinct, List.pairwise_singleton .., fun a ha b hb =>
        List.mem_singleton.mp hb ▸ rmvFirst_gone hi.distinct a ha⟩
    · intro a ha
      rcases List.mem_append.mp ha with ha | ha
      · exact h1.room a ha
      · rw [List.mem_singleton.mp ha, hbuf]; exact Nat.zero_le _

def buffered (s : St) : Nat := (s.conns.map (·.buf.length)).sum

theorem buffered_bump {s : St} (hnd : (s.conns.map (·.handle)).Nodup) {c : Conn} (hc : c ∈ s.conns) (b : String) :
    buffered (bump s c.handle b) = buffered s + 1 := by
  unfold buffered bump
  rw [sum_bump, hnd.count, if_pos (List.mem_map_of_mem hc)]

/-- what a send does in any state with the invariant; `c18_delivery` is this on the reachable states -/
theorem process_spec (s : St) (hi : Inv s) (n : Bool) (g i b : String) (p : Nat) :
    (match (process s n g i b p).2 with
     | .delivered hd =>
        ∃ c ∈ s.conns, c.handle = hd ∧ c.group = g ∧ c.handle ∉ s.closed ∧ c.buf.length < c.cap ∧
          (n = true → c.id = i) ∧ (i ≠ "" → (∃ x ∈ s.conns, x.group = g ∧ x.id = i) → c.id = i) ∧
          (∀ x ∈ s.conns, x.handle ≠ hd → x ∈ (process s n g i b p).1.conns)
     | _ => (process s n g i b p).1 = s) ∧
    buffered (process s n g i b p).1 = buffered s + (match (process s n g i b p).2 with | .delivered _ => 1 | _ => 0) := by
  rcases process_cases s n g i b p with ⟨c, hget, hn, hroom, h⟩ | h | h | h <;> rw [h]
  · have ⟨hc, hg, hid⟩ := get_some hget
    exact ⟨⟨c, hc, rfl, hg, hi.open_ c hc, hroom, hn, hid, fun x hx hne => List.mem_map.mpr ⟨x, hx, bumpConn_of_ne hne⟩⟩,
      buffered_bump hi.handles hc b⟩
  all_goals exact ⟨rfl, rfl⟩

theorem inv_bump {s : St} (hi : Inv s) (c : Conn) (hc : c ∈ s.conns) (hroom : c.buf.length < c.cap) (b : String) :
    Inv (bump s c.handle b) := by
  unfold bump
  rw [bumpConn_eq]
  refine hi.setBufs _ (fun x hx => ?_) _
  by_cases hxh : (x.handle == c.handle) = true
  · obtain rfl : x = c := pairwise_unique Conn.handle (List.pairwise_map.mp hi.handles) hx hc (beq_iff_eq.mp hxh)
    rw [if_pos hxh, List.length_append]
    exact hroom  -- `a < b` is `a + 1 ≤ b`
  · rw [if_neg hxh]; exact hi.room x hx

theorem inv_process {s : St} (hi : Inv s) (n : Bool) (g i b : String) (p : Nat) : Inv (process s n g i b p).1 := by
  rcases process_cases s n g i b p with ⟨c, hget, -, hroom, h⟩ | h | h | h <;> rw [h]
  · exact inv_bump hi c (get_some hget).1 hroom b
  all_goals exact hi

theorem inv_readOne {s : St} (hi : Inv s) (hd : Nat) : Inv (readOne s hd) := by
  unfold readOne
  simp only [Conn.ite_buf]
  refine hi.setBufs _ (fun x hx => ?_) _
  by_cases hxh : (x.handle == hd) = true
  · rw [if_pos hxh, List.length_tail]; exact Nat.le_trans (Nat.sub_le ..) (hi.room x hx)
  · rw [if_neg hxh]; exact hi.room x hx

theorem inv_step {s : St} (hi : Inv s) (op : Op) : Inv (step s op) := by
  -- `connect` and `disconnect` end alike: once the queue is closed, by closing everything
  have tail {s' : St} (h : Inv s') : Inv (if s.down = true then shutdown s' else s') := by
    by_cases hd : s.down = true
    · rw [if_pos hd]; exact inv_shutdown h
    · rw [if_neg hd]; exact h
  cases op with
  | connect g i cap => exact tail (inv_add hi ⟨s.next, g, i, cap, []⟩ (Nat.le_refl _) rfl)
  | disconnect h g i => exact tail (inv_rmvFirst hi g i (some h))
  | send n g i b p =>
    simp only [step]
    by_cases hd : s.down = true
    · rw [if_pos hd]; exact hi
    · rw [if_neg hd]; exact inv_process hi n g i b p
  | shutdown => exact hi.drop (List.nil_sublist _) (.refl _) rfl rfl  -- as `inv_shutdown`; the flag `down` is no part of `Inv`
  | read h => exact inv_readOne hi h

/-- once the send queue is closed nothing stays registered: whatever connects is closed by the same loop iteration -/
theorem down_empty (s : St) (op : Op) (h : s.down = true → s.conns = []) : (step s op).down = true → (step s op).conns = [] := by
  -- `connect` and `disconnect` leave `down` as it is and end alike
  have tail {s' : St} (hs : s'.down = s.down) (hdn : (if s.down = true then shutdown s' else s').down = true) :
      (if s.down = true then shutdown s' else s').conns = [] := by
    by_cases hd : s.down = true
    · rw [if_pos hd]; rfl
    · rw [if_neg hd, hs] at hdn; exact absurd hdn hd
  cases op with
  | connect g i cap => exact tail (add_down ..)
  | disconnect hh g i => exact tail rfl
  | send n g i b p =>
    simp only [step]
    by_cases hd : s.down = true
    · rw [if_pos hd]; exact h
    · rw [if_neg hd, process_down]; exact fun hdn => absurd hdn hd
  | shutdown => exact fun _ => rfl
  | read hh => exact fun hdn => congrArg (List.map _) (h hdn)

/-- **C18, safety half**: after every sequence of connects, disconnects, reconnects, sends (any pick) and shutdowns,
    with every limit and buffer size: the limit is respected, an address has at most one listener (a reconnect replaced
    the older one), no channel was closed twice and no registered channel is closed — the transport cannot crash on
    `close` or `send` — and no stream holds more than its buffer. -/
theorem c18_registry_invariant (max : Nat) (ops : List Op) : Inv (run { max := max } ops) :=
  run_induction (P := Inv) (fun _ op h => inv_step h op) ops _ (inv_init max)

/-- **C18, delivery half**: in every reachable state and for every pick, a send is reported delivered only if one
    registered listener of the addressed group accepted it into its stream; that listener is the addressed one when it
    is connected, and for notifications always; nobody else's stream changes and the message is buffered exactly once. -/
theorem c18_delivery (max : Nat) (ops : List Op) (n : Bool) (g i b : String) (p : Nat) :
    let s := run { max := max } ops
    (match (process s n g i b p).2 with
     | .delivered hd =>
        ∃ c ∈ s.conns, c.handle = hd ∧ c.group = g ∧ c.handle ∉ s.closed ∧ c.buf.length < c.cap ∧
          (n = true → c.id = i) ∧ (i ≠ "" → (∃ x ∈ s.conns, x.group = g ∧ x.id = i) → c.id = i) ∧
          (∀ x ∈ s.conns, x.handle ≠ hd → x ∈ (process s n g i b p).1.conns)
     | _ => (process s n g i b p).1 = s) ∧
    buffered (process s n g i b p).1 = buffered s + (match (process s n g i b p).2 with | .delivered _ => 1 | _ => 0) :=
  process_spec _ (c18_registry_invariant max ops) n g i b p

/-- the streams: a send reported delivered adds its body exactly once, to the stream of the chosen listener; a send
    not reported delivered adds nothing anywhere -/
theorem c18_stream_of_send (s : St) (n : Bool) (g i b : String) (p : Nat) :
    (process s n g i b p).1.log = s.log ++ (match (process s n g i b p).2 with | .delivered hd => [(hd, b)] | _ => []) := by
  rcases process_cases s n g i b p with ⟨c, -, -, -, h⟩ | h | h | h <;> rw [h]
  · rfl
  all_goals exact (List.append_nil _).symm

/-- nothing but a send ever writes to a stream: connects, disconnects, reconnects, reads and shutdown leave every stream as it is -/
theorem c18_stream_only_sends (s : St) (op : Op) (h : ∀ n g i b p, op ≠ .send n g i b p) : (step s op).log = s.log := by
  -- `shutdown` keeps the log
  have tail {s' : St} : (if s.down = true then shutdown s' else s').log = s'.log := by
    by_cases hd : s.down = true
    · rw [if_pos hd]; rfl
    · rw [if_neg hd]
  cases op with
  | connect g i cap => exact tail.trans (add_log ..)
  | disconnect hh g i => exact tail
  | send n g i b p => exact absurd rfl (h n g i b p)
  | shutdown | read hh => rfl

/-- after the send queue has been closed (server stopping) no listener stays registered, whatever connects later -/
theorem c18_down_registry_empty (max : Nat) (ops : List Op) :
    (run { max := max } ops).down = true → (run { max := max } ops).conns = [] :=
  run_induction (P := fun s => s.down = true → s.conns = []) down_empty ops _ fun _ => rfl

/-- an undecodable (or `null`) address is a failed hand-off that touches nothing -/
theorem c18_bad_address (s : St) (n : Bool) (data body : String) (p : Nat)
    (h : ∀ g i, decodeData data ≠ .ok g i) : processRaw s n data body p = (s, none) := by
  unfold processRaw
  cases hd : decodeData data with
  | ok g i => exact absurd hd (h g i)
  | null | bad => rfl

/-! ### non-vacuity -/

/-- a reconnect replaces the older connection of the same address and closes it; a third address is turned away at the limit -/
example :
    let s := run { max := 2 } [.connect "g" "a" 1, .connect "g" "b" 1, .connect "g" "a" 1, .connect "h" "c" 1]
    s.conns.map (fun c => (c.handle, c.group, c.id)) = [(1, "g", "b"), (2, "g", "a")] ∧ s.closed = [3, 0] := by decide

/-- delivery to the addressed id, fallback inside the group, refusal of a notification for an absent id, full buffer -/
example :
    let s := run { max := 4 } [.connect "g" "a" 1, .connect "g" "b" 1, .connect "h" "a" 1]
    (process s false "g" "b" "m" 0).2 = .delivered 1 ∧ (process s false "g" "zz" "m" 1).2 = .delivered 1 ∧
    (process s true "g" "zz" "m" 1).2 = .notifyWrongId ∧ (process s false "k" "a" "m" 0).2 = .noConnection ∧
    (process (process s false "g" "b" "m" 0).1 false "g" "b" "m2" 0).2 = .full := by decide

example : decodeData "{\"group\":\"g\",\"id\":\"a\"}" = .ok "g" "a" ∧ decodeData "{\"group\":\"g\"}" = .ok "g" "" ∧
    decodeData "null" = .null ∧ decodeData "{\"group\":1}" = .bad := by decide

end Resonate.Poll
