/-
  Properties/C05.lean — no lost wake-ups: registrations become tasks atomically with completion.
-/
import Resonate.Proofs.CbInv
import Resonate.Proofs.SysInv
import Resonate.Properties.C08
namespace Resonate.C05
open SqlSpec

variable (d : Dialect)

/-- **Conversion.** Executing the completion block for `id` on ANY database: on success, exactly the
    registrations on `id` are removed, each of them has become a task carrying its id, receiver, message,
    timeout and root (state init, counter 1), no other registration is touched, and the number of tasks
    created equals the number of registrations deleted. -/
theorem conversion (db db' : Db) (c : UpdatePromiseCmd) (t1 t2 : Int) (rs : List Res)
    (h : db.execTx (defs d) [.updatePromise c, .completeTasks ⟨c.id, t1⟩, .createTasks ⟨c.id, t2⟩, .deleteCallbacks ⟨c.id⟩] = .ok (db', rs)) :
    db'.callbacks = db.callbacks.filter (fun cb => cb.promiseId != c.id) ∧
    (∀ cb ∈ db.callbacks, cb.promiseId = c.id → ∃ task ∈ db'.tasks, task.id = cb.id ∧ task.recv = cb.recv ∧ task.mesg = cb.mesg ∧
        task.timeout = cb.timeout ∧ task.rootPromiseId = cb.rootPromiseId ∧ task.state = 1 ∧ task.counter = 1 ∧ task.createdOn = some t2) ∧
    (∃ n0 n1 k, rs = [.rows n0, .rows n1, .rows k, .rows k] ∧ k = (db.callbacks.filter (fun cb => cb.promiseId == c.id)).length) := by
  obtain ⟨_, hcb, s, n, hins, rfl⟩ := completeBlock_ok h
  obtain ⟨hn, rows, hts, hf, _⟩ := insertTasksFrom_ok hins
  -- the registrations selected for insertion are those the DELETE removes: the ones on `c.id`
  have hlen : n = (db.callbacks.filter (fun cb => cb.promiseId == c.id)).length := by rw [hn, List.length_mergeSort]; rfl
  have hdel : countP ((defs d).callbackDelete_where ⟨c.id⟩) db.callbacks = n := by rw [hlen]; rfl
  -- `hcb` is the first clause, and `hdel` makes the result list (fourth entry: the DELETE's count) the one claimed, both
  -- up to unfolding `callbackDelete_where ⟨c.id⟩ cb` to `cb.promiseId == c.id`
  refine ⟨hcb, fun cb hm hid => ?_, ⟨_, _, n, by rw [hdel], hlen⟩⟩
  have hsel : cb ∈ (db.callbacks.filter ((defs d).taskInsertAll_where ⟨c.id, t2⟩)).mergeSort cbOrdLe := by
    rw [List.mem_mergeSort, List.mem_filter]; exact ⟨hm, by simp [defs, taskInsertAll_where, hid]⟩
  obtain ⟨row, hrow, k, rfl⟩ := forall2_mem_left hf hsel
  exact ⟨_, hts ▸ List.mem_append_right _ hrow, by simp [defs, taskInsertAll_row]⟩

/-- `TASK_INSERT_ALL` has no conflict clause: when a selected registration has the id of an existing task the statement fails -/
theorem insert_collision_fails (c : CreateTasksCmd) :
    ∀ (cbs : List CallbackRow) (tasks : List TaskRow) (seq : Nat),
      (∃ cb ∈ cbs, ∃ t ∈ tasks, t.id = cb.id) → ∃ e, insertTasksFrom (defs d) c cbs tasks seq = .error e := by
  intro cbs tasks seq ⟨cb, hcb, t, ht, hid⟩
  cases h : insertTasksFrom (defs d) c cbs tasks seq with
  | error e => exact ⟨e, rfl⟩
  | ok p =>
    -- a success would have appended a row with the registration's id, which no stored task may carry
    obtain ⟨_, rows, _, hf, hfresh, _⟩ := insertTasksFrom_ok h
    obtain ⟨row, hrow, k, rfl⟩ := forall2_mem_left hf hcb
    exact absurd hid (hfresh _ hrow t ht)

/-- **Finding F2 as a theorem about the model** (known finding of C11; the ids that collide are exhibited by
    `callbackId_not_injective` below).  When a registration on the promise has the id of a task that exists already, the
    completion block NEVER commits — whatever the completion, by whichever path (request, lazy time-out, sweep): the
    promise cannot leave pending, and (all or nothing) no registration is dropped either. -/
theorem colliding_completion_never_commits_F2 (db db' : Db) (c : UpdatePromiseCmd) (t1 t2 : Int) (rs : List Res)
    (cb : CallbackRow) (hcb : cb ∈ db.callbacks) (hp : cb.promiseId = c.id) (t : TaskRow) (ht : t ∈ db.tasks) (hid : t.id = cb.id) :
    db.execTx (defs d) [.updatePromise c, .completeTasks ⟨c.id, t1⟩, .createTasks ⟨c.id, t2⟩, .deleteCallbacks ⟨c.id⟩] ≠ .ok (db', rs) := by
  intro h
  obtain ⟨_, _, s, n, hins, _⟩ := completeBlock_ok h
  -- finishing the promise's own tasks keeps every task id, so the colliding task is still there when the registrations are inserted
  have ⟨u, hu, huid⟩ : ∃ u ∈ updateWhere ((defs d).taskCompleteByRootId_where ⟨c.id, t1⟩) ((defs d).taskCompleteByRootId_set ⟨c.id, t1⟩) db.tasks,
      u.id = cb.id :=
    -- `updateWhere w set = map (fun r => if w r then set r else r)`, and `set` keeps `.id` (by unfolding)
    ⟨_, List.mem_map_of_mem ht, by split <;> exact hid⟩
  have hsel : cb ∈ (db.callbacks.filter ((defs d).taskInsertAll_where ⟨c.id, t2⟩)).mergeSort cbOrdLe := by
    rw [List.mem_mergeSort, List.mem_filter]; exact ⟨hcb, by simp [defs, taskInsertAll_where, hp]⟩
  obtain ⟨e, he⟩ := insert_collision_fails d ⟨c.id, t2⟩ _ _ db.seqT ⟨cb, hsel, u, hu, huid⟩
  rw [he] at hins
  cases hins

/-- **Finding F20 (known) as a theorem about the model.**  The completion block is written unconditionally.  When a second
    block for the same promise is executed after a first one (two requests, or a request and the sweep, had both read the
    promise while it was pending), every registration whose task has the completed promise as its root — every SUBSCRIPTION:
    the root of a notification is the awaited promise — ends up as a task in state COMPLETED: the first block creates it
    (`conversion`: state init), the second block's promise update changes no row but its `CompleteTasks`, by root promise id,
    finishes it (`C08.finished_together`).  The subscriber is never notified.  For every database, both dialects. -/
theorem second_block_finishes_notifications_F20 (db db1 db2 : Db) (c c2 : UpdatePromiseCmd) (hc : c2.id = c.id) (t1 t2 t1' t2' : Int)
    (rs rs2 : List Res)
    (h1 : db.execTx (defs d) [.updatePromise c, .completeTasks ⟨c.id, t1⟩, .createTasks ⟨c.id, t2⟩, .deleteCallbacks ⟨c.id⟩] = .ok (db1, rs))
    (h2 : db1.execTx (defs d) [.updatePromise c2, .completeTasks ⟨c2.id, t1'⟩, .createTasks ⟨c2.id, t2'⟩, .deleteCallbacks ⟨c2.id⟩] = .ok (db2, rs2)) :
    ∀ cb ∈ db.callbacks, cb.promiseId = c.id → cb.rootPromiseId = c.id →
      ∃ task ∈ db2.tasks, task.id = cb.id ∧ task.state = 8 ∧ task.completedOn = some t1' := by
  intro cb hcb hp hroot
  obtain ⟨_, hconv, _⟩ := conversion d db db1 c t1 t2 rs h1
  obtain ⟨task, hmem, hid, _, _, _, hr, hst, _, _⟩ := hconv cb hcb hp
  obtain ⟨i, hi⟩ := List.getElem?_of_mem hmem
  have := C08.finished_together d db1 db2 c2 t1' t2' rs2 h2 i task hi (by rw [hr, hroot, hc]) (.inl hst)
  exact ⟨_, List.mem_of_getElem? this, hid, rfl, rfl⟩

/-- from any database in which every registration awaits a pending promise -/
theorem cbInv_every_run (env : Env) (db0 : Db) (h0 : CbInv db0) (cs : List Choice) (hcs : ∀ c ∈ cs, c.Ok) :
    CbInv ((Sys.boot env d (defs d) db0).run cs).db :=
  have hboot : SysInv CbInv (Sys.boot env d (defs d) db0) := (sysInv_iff _ _).mpr (WInv.sysInv_boot CbInv env d (defs d) db0 h0)
  (sysInv_run CbInv cs _ hboot hcs fun db db' tx rs hi hw hx => cbInv_wfCore d tx db db' rs hi hw.1 hx).db

/-- **Invariant, every reachable state.** From an empty database, along ANY run — every interleaving of
    registrations with every completion path (explicit, lazy time-out, sweep), both orders inside one
    batch, every failure, every crash point — every stored registration awaits a promise that exists and
    is pending: no registration outlives its promise. -/
theorem no_registration_outlives_its_promise (env : Env) (cs : List Choice) (hcs : ∀ c ∈ cs, c.Ok) :
    CbInv ((Sys.boot env d (defs d)).run cs).db :=
  cbInv_every_run d env {} (fun _ hcb => nomatch hcb) cs hcs

/-- **Registration is guarded.** `CreateCallback` inserts only when the awaited promise is pending and no
    registration with that id exists; otherwise nothing changes and 0 rows are reported — hence
    re-registering the same (awaiting, awaited) pair or subscription id can never yield a second row, and
    (by `conversion`) never a second task. -/
theorem registration_once (db db' : Db) (c : CreateCallbackCmd) (n : Nat)
    (h : db.exec (defs d) (.createCallback c) = .ok (db', .rows n)) (hdup : ∃ cb ∈ db.callbacks, cb.id = c.id) :
    db' = db ∧ n = 0 := by
  -- `.createCallback` is a conditional insert on `callbackInsert_guard` (`ite_ok_eq_ok`: see the header of Proofs/Frame.lean)
  rcases ite_ok_eq_ok.mp h with ⟨hg, _⟩ | ⟨_, h⟩
  · obtain ⟨cb, hcb, hid⟩ := hdup
    exact absurd hid (((callbackInsert_guard_iff d c db).mp hg).2 cb hcb)
  · cases h; exact ⟨rfl, rfl⟩

/-- the derived registration ids are functions of the (awaiting, awaited) pair / (promise, subscription id) -/
theorem callback_id_deterministic (root leaf : String) : Coro.callbackId root leaf = "__resume:" ++ root ++ ":" ++ leaf := rfl
theorem subscription_id_deterministic (p i : String) : Coro.subscriptionId p i = "__notify:" ++ p ++ ":" ++ i := rfl

/-- **Finding F2 (witness).** The derived ids are NOT injective when ids contain `:` — two different
    registrations collide, and since `TASK_INSERT_ALL` has no conflict clause the later completion fails. -/
theorem callbackId_not_injective : Coro.callbackId "a" "b:c" = Coro.callbackId "a:b" "c" ∧ ("a", "b:c") ≠ ("a:b", "c") := by
  decide

/-! ### non-vacuity -/
def exRow : PromiseRow := { id := "a", sortId := 1, state := 1, paramHeaders := [], paramData := "", valueHeaders := none, valueData := none, timeout := 10, idempotencyKeyForCreate := none, idempotencyKeyForComplete := none, tags := [], createdOn := some 0, completedOn := none }
def exCb : CallbackRow := { id := "__resume:r:a", promiseId := "a", rootPromiseId := "r", recv := "x", mesg := ⟨"resume", "r", "a"⟩, timeout := 1, createdOn := 0 }

example : CbInv { promises := [exRow], callbacks := [exCb] } := by
  intro cb hcb
  simp at hcb
  subst hcb
  exact ⟨exRow, by simp, rfl, rfl⟩

end Resonate.C05
