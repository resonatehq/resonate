/-
  Properties/C12.lean — every request gets exactly one response (conservation law of the kernel model).

  For every request id: (#times submitted) = (#responses emitted) + (#times still inside the server: in the API
  queue or as a live request coroutine), in every run of the kernel model — every arrival pattern, queue / batch / pool
  size, completion batching, store batch composition and failure pattern, and every moment of shutdown — as long as
  the process neither crashes (`crash` choice: in-flight responses are lost with the process, property C06) nor
  halts on a panic (property C13).  With distinct request ids this is: never two responses, and a request without
  a response is still inside.  Model: Model/System.lean, tied to the real kernel by sysdiff (which compares the
  response events of every step).
-/
import Resonate.Model.SqlSpec
import Resonate.Model.Env
import Resonate.Properties.C13
namespace Resonate.C12

def isResp (tid : String) : Event → Bool
  | .respond t _ => t == tid
  | _ => false

def respCount (tid : String) (evs : List Event) : Nat := evs.countP (isResp tid)

/-- is this a request coroutine of `tid`?  (background coroutines answer nobody) -/
def isReq (tid : String) (th : Thread) : Bool := th.isBg.isNone && th.tid == tid

def liveCount (tid : String) (s : Sys) : Nat := s.apiQ.countP (·.1 == tid) + s.threads.countP (isReq tid)

/-! ### threads -/

theorem respCount_dispatch (tid : String) (l : List (SubId × Subm)) :
    respCount tid (l.map fun (i, s) => Event.dispatch i s) = 0 :=
  List.countP_eq_zero.mpr fun e he => by
    obtain ⟨_, _, rfl⟩ := List.mem_map.mp he
    exact Bool.false_ne_true

/-- running one thread until it blocks: it either stays (no response yet) or ends with exactly one response
    (a request coroutine) / none (a background coroutine) — unless it panics -/
theorem run_count (tid : String) (t : Time) (fuel : Nat) (th : Thread) (h : (th.run t fuel).2.2.2 = none) :
    respCount tid (th.run t fuel).2.1 + (match (th.run t fuel).1 with | some x => (if isReq tid x then 1 else 0) | none => 0)
      = if isReq tid th then 1 else 0 := by
  -- the eight cases are listed at `run_tids` (Proofs/KernelEq.lean)
  fun_induction Thread.run th t fuel with
  | case1 | case3 | case5 => cases h  -- out of fuel, request done without a response, panic: the run reports a halt
  | case2 th _ r hbg => simp [respCount, isResp, isReq, hbg]  -- request answered: one response to `th.tid`, the thread is gone
  | case4 th _ o _ k hbg => simp [respCount, isResp, isReq, hbg]  -- background coroutine done: no response, and it was no request
  | case6 _ _ _ ih => exact ih h  -- retry: the restarted thread has the same `tid` and `isBg`
  | case7 _ _ _ _ _ _ ih => exact ih h  -- empty yield: goes on at once, same `tid` and `isBg`
  | case8 =>  -- blocks: dispatch events only, the thread stays with the same `tid` and `isBg`
    rw [respCount_dispatch, Nat.zero_add]
    rfl

theorem runAll_count (tid : String) (t : Time) (cands : List (Thread × Bool)) (h : (runAll t cands).2.2.2 = none) :
    respCount tid (runAll t cands).2.1 + (runAll t cands).1.countP (isReq tid) = (cands.map (·.1)).countP (isReq tid) := by
  rw [runAll_eq] at h ⊢
  replace h := List.findSome?_eq_none_iff.mp h
  induction cands with
  | nil => rfl
  | cons c rest ih =>
    -- a candidate that is run: `run_count`; one that is left: itself
    have h1 : respCount tid (ranOf t c).2.1 + (match (ranOf t c).1 with | some x => (if isReq tid x then 1 else 0) | none => 0)
        = if isReq tid c.1 then 1 else 0 := by
      have hc := h c (List.mem_cons_self ..)
      unfold ranOf at hc ⊢
      split
      · rename_i hb
        rw [if_pos hb] at hc
        exact run_count tid t _ _ hc
      · exact Nat.zero_add _
    have h2 := ih fun x hx => h x (List.mem_cons_of_mem _ hx)
    simp only [List.filterMap_cons, List.flatMap_cons, List.map_cons, List.countP_cons, respCount, List.countP_append] at h1 h2 ⊢
    cases hr : (ranOf t c).1 with
    | none =>
      simp only [hr] at h1 ⊢
      omega
    | some x =>
      simp only [hr, List.countP_cons] at h1 ⊢
      omega

/-- API submissions taken off the queue become request coroutines, or are refused with one response each -/
theorem startReqs_count (tid : String) (env : Env) (t : Time) : ∀ (q : List (String × Req)) (cnt : Nat),
    respCount tid (startReqs env t q cnt).2 + (startReqs env t q cnt).1.countP (isReq tid) = q.countP (·.1 == tid) := by
  intro q
  induction q with
  | nil => intro _; rfl
  | cons a q ih =>
    intro cnt
    rw [startReqs_cons]
    split
    · have := ih (cnt + 1)
      simp only [List.countP_cons, isReq, newThread, Option.isNone_none, Bool.true_and] at this ⊢
      omega
    · have := ih cnt
      simp only [List.countP_cons, respCount, isResp] at this ⊢
      by_cases hx : (a.1 == tid) = true <;> simp only [hx, if_true, if_false, Bool.false_eq_true] at this ⊢ <;> omega

theorem fillSlot_isReq (tid : String) (th : Thread) (seq : Nat) (c : Cpl) : isReq tid (fillSlot th seq c) = isReq tid th := rfl

theorem deliverAll_count (tid : String) (cs : List (SubId × Cpl)) (ths : List Thread) :
    (deliverAll ths cs).countP (isReq tid) = ths.countP (isReq tid) := by
  -- delivery keeps `isReq` of every thread, so the list of `isReq` values is the same (`deliverAll_map`), hence the count
  have := congrArg (List.countP id) (deliverAll_map (isReq tid) (fillSlot_isReq tid) cs ths)
  rwa [List.countP_map, List.countP_map] at this

theorem resume_isReq (tid : String) (th th' : Thread) (t : Time) (h : th.resume? t = some th') : isReq tid th' = isReq tid th := by
  obtain ⟨_, _, _, rfl⟩ := resume?_eq_some h; rfl

/-! ### one step -/

def submitCount (tid : String) : Choice → Nat
  | .submit t _ => if t == tid then 1 else 0
  | _ => 0

def isCrash : Choice → Bool
  | .crash => true
  | _ => false

theorem tick_count (tid : String) (s : Sys) (t : Time) (h : (s.tick t).1.halted = none) :
    respCount tid (s.tick t).2 + liveCount tid (s.tick t).1 = liveCount tid s := by
  rw [tick_eq2] at h ⊢
  split
  · simp [respCount]
  · rename_i hh
    simp only [hh, Bool.false_eq_true, if_false] at h
    have hq : (s.apiQ.take (dequeueCount s.env.cfg.submissionBatchSize s.apiQ.length)).countP (·.1 == tid)
        + (s.apiQ.drop (dequeueCount s.env.cfg.submissionBatchSize s.apiQ.length)).countP (·.1 == tid) = s.apiQ.countP (·.1 == tid) := by
      rw [← List.countP_append, List.take_append_drop]
    -- dequeued requests are started or refused; background coroutines answer nobody; delivery and resumption keep `isReq`
    have h3 : respCount tid (s.sr t).2 + (s.sr t).1.countP (isReq tid) = _ := startReqs_count tid s.env t _ (s.sb t).2.2
    have h4 : (s.sb t).2.1.countP (isReq tid) = 0 := List.countP_eq_zero.mpr fun th hth => by
      obtain ⟨_, _, rfl⟩ := startBg_new _ _ _ _ _ _ _ th hth
      exact Bool.false_ne_true
    have h5 := runAll_count tid t _ h
    have hc : ((s.cands t).map (·.1)).countP (isReq tid) = s.threads.countP (isReq tid) + ((s.sb t).2.1.countP (isReq tid) + (s.sr t).1.countP (isReq tid)) := by
      rw [cands_fst, Sys.newThreads, List.countP_append, List.countP_append, List.countP_map,
        ← deliverAll_count tid (s.cq.take s.env.cfg.completionBatchSize) s.threads]
      congr 2
      funext th
      show isReq tid ((th.resume? t).getD th) = isReq tid th
      cases hr : th.resume? t with
      | none => rfl
      | some th' => exact resume_isReq tid th th' t hr
    rw [hc, h4] at h5
    simp only [liveCount, respCount, List.countP_append] at h3 h5 hq ⊢
    omega

/-- one step: what came in = what went out + what is still inside -/
theorem step_count (tid : String) (s : Sys) (c : Choice) (hc : isCrash c = false) (h : (s.step c).1.halted = none) :
    respCount tid (s.step c).2 + liveCount tid (s.step c).1 = liveCount tid s + submitCount tid c := by
  cases c with
  | submit t r =>
    -- answered at once: one response for `t`; queued: one more `t` inside
    rcases submit_cases s t r with ⟨e, he⟩ | he <;> rw [he]
    · show respCount tid [.respond t e] + _ = _
      rw [respCount, List.countP_singleton, Nat.add_comm]; rfl
    · show 0 + (List.countP _ (s.apiQ ++ [(t, r)]) + _) = _
      rw [List.countP_append, List.countP_singleton, Nat.zero_add, Nat.add_right_comm]; rfl
  | tick t => exact tick_count tid s t h
  -- the other three emit no response and leave `apiQ` and `threads` as they are: `0 + n = n + 0` by unfolding
  | execStore items => exact Nat.zero_add _
  | complete id c => rcases complete_cases s id c with he | ⟨_, _, he⟩ <;> rw [he] <;> exact Nat.zero_add _
  | shutdown => exact Nat.zero_add _
  | crash => cases hc

/-! ### runs -/

/-- the run with its events -/
def trace (s : Sys) : List Choice → Sys × List Event
  | [] => (s, [])
  | c :: cs => let r := s.step c; let rr := trace r.1 cs; (rr.1, r.2 ++ rr.2)

theorem halted_persists (s : Sys) (c : Choice) (hc : isCrash c = false) (h : s.halted ≠ none) : (s.step c).1.halted ≠ none := by
  cases c with
  | submit t r => rcases submit_cases s t r with ⟨e, he⟩ | he <;> rw [he] <;> exact h
  | tick t =>
    have : s.halted.isSome = true := Option.isSome_iff_ne_none.mpr h
    rw [Sys.step, Sys.tick, if_pos this]; exact h
  -- the other three do not touch `halted` (by unfolding)
  | execStore items => exact h
  | complete id c => rcases complete_cases s id c with he | ⟨_, _, he⟩ <;> rw [he] <;> exact h
  | shutdown => exact h
  | crash => cases hc

theorem trace_halted (cs : List Choice) : ∀ (s : Sys), (cs.all fun c => !isCrash c) = true → s.halted ≠ none → (trace s cs).1.halted ≠ none := by
  induction cs with
  | nil => intro s _ h; exact h
  | cons c cs ih =>
    intro s hc h
    simp only [List.all_cons, Bool.and_eq_true, Bool.not_eq_true'] at hc
    exact ih _ hc.2 (halted_persists s c hc.1 h)

/-- **C12, conservation**: in every run without process crash that does not halt on a panic, for every request id:
    responses emitted + requests still inside (queued or running) = requests inside at the start + submissions. -/
theorem conservation (tid : String) (cs : List Choice) : ∀ (s : Sys),
    (cs.all fun c => !isCrash c) = true → (trace s cs).1.halted = none →
    respCount tid (trace s cs).2 + liveCount tid (trace s cs).1 = liveCount tid s + (cs.map (submitCount tid)).sum := by
  induction cs with
  | nil => intro s _ _; simp [trace, respCount]
  | cons c cs ih =>
    intro s hc hh
    simp only [List.all_cons, Bool.and_eq_true, Bool.not_eq_true'] at hc
    simp only [trace] at hh ⊢
    have h1 : (s.step c).1.halted = none := by
      cases hx : (s.step c).1.halted with
      | none => rfl
      | some x => exact absurd hh (trace_halted cs _ hc.2 (by simp [hx]))
    have hs := step_count tid s c hc.1 h1
    have hr := ih (s.step c).1 hc.2 hh
    simp only [respCount, List.countP_append, List.map_cons, List.sum_cons] at hs hr ⊢
    omega

/-- **C12, exactly one**: from a state with nothing of `tid` inside (a fresh server), a request id submitted once has, at
    every moment, either exactly one response and is gone, or no response yet and is still inside exactly once — never two
    responses, never lost. -/
theorem exactly_one (s : Sys) (tid : String) (cs : List Choice) (h0 : liveCount tid s = 0)
    (hc : (cs.all fun c => !isCrash c) = true) (hh : (trace s cs).1.halted = none) (honce : (cs.map (submitCount tid)).sum = 1) :
    (respCount tid (trace s cs).2 = 1 ∧ liveCount tid (trace s cs).1 = 0) ∨
    (respCount tid (trace s cs).2 = 0 ∧ liveCount tid (trace s cs).1 = 1) := by
  have := conservation tid cs s hc hh
  omega

/-- a request id never submitted is never answered -/
theorem no_spurious_response (env : Env) (d : Dialect) (g : SqlDefs) (db : Db) (tid : String) (cs : List Choice)
    (hc : (cs.all fun c => !isCrash c) = true) (hh : (trace (Sys.boot env d g db) cs).1.halted = none)
    (hnever : (cs.map (submitCount tid)).sum = 0) : respCount tid (trace (Sys.boot env d g db) cs).2 = 0 := by
  have := conservation tid cs (Sys.boot env d g db) hc hh
  have h0 : liveCount tid (Sys.boot env d g db) = 0 := rfl
  omega

theorem trace_run (cs : List Choice) : ∀ (s : Sys), (trace s cs).1 = s.run cs := by
  induction cs with
  | nil => intro s; rfl
  | cons c cs ih => intro s; exact ih _

/-- **C12, exactly one — without the "does not halt" hypothesis.** With the kernel composition of C13
    (`server_never_halts`): from a fresh server over a database with unique keys, along every run without process crash
    that respects `RunOkV`, a request id submitted once has at every moment either exactly one response and is gone, or
    no response yet and is still inside exactly once. -/
theorem exactly_one_every_run (env : Env) (d : Dialect) (db : Db) (hk : KeysX db) (clk : Time) (tid : String) (cs : List Choice)
    (hc : (cs.all fun c => !isCrash c) = true) (hok : C13.RunOkV clk (Sys.boot env d (SqlSpec.defs d) db) cs)
    (honce : (cs.map (submitCount tid)).sum = 1) :
    (respCount tid (trace (Sys.boot env d (SqlSpec.defs d) db) cs).2 = 1 ∧ liveCount tid (trace (Sys.boot env d (SqlSpec.defs d) db) cs).1 = 0) ∨
    (respCount tid (trace (Sys.boot env d (SqlSpec.defs d) db) cs).2 = 0 ∧ liveCount tid (trace (Sys.boot env d (SqlSpec.defs d) db) cs).1 = 1) :=
  exactly_one _ tid cs rfl hc (by rw [trace_run]; exact C13.server_never_halts d env db hk clk cs hok) honce

/-- backpressure and shutdown are explicit answers: a submission that is not accepted is answered at once, with
    `shutting down` after shutdown was requested and `API queue full` when the queue is full; an accepted one is queued -/
theorem refused_or_queued (s : Sys) (tid : String) (r : Req) :
    (s.apiDone = true → s.step (.submit tid r) = (s, [.respond tid (.error S_SHUTTING_DOWN)])) ∧
    (s.apiDone = false → ¬ s.apiQ.length < s.env.cfg.apiQueueSize → s.step (.submit tid r) = (s, [.respond tid (.error S_API_QUEUE_FULL)])) ∧
    (s.apiDone = false → s.apiQ.length < s.env.cfg.apiQueueSize → s.step (.submit tid r) = ({ s with apiQ := s.apiQ ++ [(tid, r)] }, [])) := by
  refine ⟨?_, ?_, ?_⟩
  · intro h; simp [Sys.step, h]
  · intro h h2; simp [Sys.step, h, h2]
  · intro h h2; simp [Sys.step, h, h2]

/-- requests accepted before shutdown stay inside after it (they are not dropped by the shutdown request) -/
theorem shutdown_keeps_accepted (s : Sys) (tid : String) : liveCount tid (s.step .shutdown).1 = liveCount tid s := rfl

/-! ### non-vacuity (evaluated at build time by `#guard`: tests of the executable model, not theorems) -/

private def demo (apiQueue pool : Nat) : Sys × List Event :=
  trace (Sys.boot (defaultEnv { apiQueueSize := apiQueue, coroutineMaxSize := pool }) .sqlite (SqlSpec.defs .sqlite))
    [.submit "a" (.readPromise "p"), .submit "b" (.readPromise "q"), .tick 10,
     .execStore [({ tid := "a", seq := 0 }, .ok), ({ tid := "b", seq := 0 }, .before)], .tick 20, .shutdown, .submit "c" (.readPromise "p")]

-- both answered exactly once (one from the store, one with the injected failure), the late one refused at once
#guard respCount "a" (demo 10 10).2 == 1 && respCount "b" (demo 10 10).2 == 1 && respCount "c" (demo 10 10).2 == 1 && (demo 10 10).1.halted.isNone
-- API queue of one: the second submission is refused with `queue full` — still exactly one answer each
#guard respCount "a" (demo 1 10).2 == 1 && respCount "b" (demo 1 10).2 == 1 && liveCount "a" (demo 1 10).1 == 0
-- coroutine pool of one: the second request is refused by the scheduler — still exactly one answer each
#guard respCount "a" (demo 10 1).2 == 1 && respCount "b" (demo 10 1).2 == 1

end Resonate.C12
