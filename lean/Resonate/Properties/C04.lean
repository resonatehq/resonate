/-
  Properties/C04.lean — timeouts are exact: never pending after the deadline, never timed out before it.
  Decision logic of the four lazy paths and of the sweep, stated outright; `t` is always the tick at which
  the coroutine was resumed after its read (what `c.Time()` returns when the decision is taken).
-/
import Resonate.Proofs.CoSteps
import Resonate.Model.SqlSpec
namespace Resonate.C04
open Coro SqlSpec

/-! ### the shape of every time-out completion -/

/-- state = timed-out (or resolved when tagged `resonate:timeout=true`), empty value, no idempotency key,
    completion time = the promise's timeout -/
theorem timeout_shape (id : String) (p : Promise) :
    (timeoutCmd id p).state = timedoutState p.tags ∧ (timeoutCmd id p).value = {} ∧
    (timeoutCmd id p).idempotencyKey = none ∧ (timeoutCmd id p).completedOn = p.timeout ∧ (timeoutCmd id p).id = id := ⟨rfl, rfl, rfl, rfl, rfl⟩

theorem timedoutState_cases (tags : SMap) :
    (tags.get? "resonate:timeout" = some "true" ∧ timedoutState tags = P_RESOLVED) ∨
    (tags.get? "resonate:timeout" ≠ some "true" ∧ timedoutState tags = P_TIMEDOUT) := by
  unfold timedoutState
  by_cases h : tags.get? "resonate:timeout" = some "true"
  · left; simp [h]
  · right; exact ⟨h, by simp [h]⟩

/-- the store writes exactly that shape into the row, and only into a pending row -/
theorem store_writes_shape (c : UpdatePromiseCmd) (r : PromiseRow) :
    (promiseUpdate_set c r).state = c.state ∧ (promiseUpdate_set c r).completedOn = some c.completedOn ∧
    (promiseUpdate_set c r).valueData = some c.value.data ∧ (promiseUpdate_set c r).idempotencyKeyForComplete = c.idempotencyKey ∧
    (promiseUpdate_set c r).timeout = r.timeout := ⟨rfl, rfl, rfl, rfl, rfl⟩

/-! ### ReadPromise -/

/-- a pending promise whose timeout has been reached (`timeout ≤ t`, boundary included) is never answered as
    pending: the coroutine first issues the time-out completion block -/
theorem read_overdue (id : String) (t0 t : Time) (r : PromiseRow) (hs : r.state = 1) (ht : r.timeout ≤ t) :
    ∃ k, (readPromise id t0).next t (gotRow r) = .yield [.store (completeTx (timeoutCmd id r.toPromise) t)] k ∧
      (∀ t2 n k', k t2 (blockDone 1 n k') = .done (some (.promise S_OK (some (withCompleted r.toPromise (timeoutCmd id r.toPromise)))))) ∧
      (∀ t2 n k', k t2 (blockDone 0 n k') = .retry) := by
  change ∃ k, (if (r.toPromise.state == P_PENDING && decide (r.toPromise.timeout ≤ t)) = true then _ else _) = _ ∧ _
  rw [overdue_eq, decide_eq_true ⟨hs, ht⟩, if_pos rfl]
  exact ⟨_, rfl, fun _ _ _ => by simp [blockDone, completeOut], fun _ _ _ => by simp [blockDone, completeOut]⟩

/-- otherwise — the promise is completed, or pending with the clock strictly before its timeout (`t < timeout`) — it is
    reported as stored and nothing is written: a pending promise is never timed out before its instant -/
theorem read_not_overdue (id : String) (t0 t : Time) (r : PromiseRow) (hn : ¬ (r.state = 1 ∧ r.timeout ≤ t)) :
    (readPromise id t0).next t (gotRow r) = .done (some (.promise S_OK (some r.toPromise))) := by
  change (if (r.toPromise.state == P_PENDING && decide (r.toPromise.timeout ≤ t)) = true then _ else _) = _
  rw [overdue_eq, decide_eq_false hn, if_neg Bool.false_ne_true]

/-- hence: no read response reports `pending` once the clock has reached the timeout -/
theorem read_never_pending_past_deadline (id : String) (t0 t : Time) (r : PromiseRow) (p : Promise) (st : Nat)
    (h : (readPromise id t0).next t (gotRow r) = .done (some (.promise st (some p)))) : ¬ (p.state = 1 ∧ p.timeout ≤ t) := by
  by_cases ho : r.state = 1 ∧ r.timeout ≤ t
  · obtain ⟨k, hk, _⟩ := read_overdue id t0 t r ho.1 ho.2
    rw [hk] at h
    cases h
  · rw [read_not_overdue id t0 t r ho] at h
    cases h
    exact ho

/-! ### CompletePromise -/

/-- handled strictly before the timeout: the caller's state, value and key are installed, completed_on = now -/
theorem complete_in_time (req : CompletePromiseReq) (t0 t : Time) (r : PromiseRow) (hs : r.state = 1) (ht : t < r.timeout) :
    ∃ k, (completePromise req t0).next t (gotRow r) =
      .yield [.store (completeTx { id := req.id, state := req.state, value := req.value, idempotencyKey := req.idempotencyKey, completedOn := t } t)] k := by
  unfold completePromise
  simp only [Co.next, gotRow, readPromiseRow, PromiseRow.toPromise, hs, P_PENDING, beq_self_eq_true, if_true, ht]
  exact ⟨_, rfl⟩

/-- handled at or after the timeout (boundary included): the caller's state and value are NEVER installed —
    the only write is the time-out completion -/
theorem complete_too_late (req : CompletePromiseReq) (t0 t : Time) (r : PromiseRow) (hs : r.state = 1) (ht : r.timeout ≤ t) :
    ∃ k, (completePromise req t0).next t (gotRow r) = .yield [.store (completeTx (timeoutCmd req.id r.toPromise) t)] k := by
  unfold completePromise
  have : ¬ t < r.timeout := Int.not_lt.mpr ht
  simp only [Co.next, gotRow, readPromiseRow, PromiseRow.toPromise, hs, P_PENDING, beq_self_eq_true, if_true, this, if_false]
  exact ⟨_, rfl⟩

/-! ### CreatePromise on an existing promise -/

theorem create_existing_overdue (req : CreatePromiseReq) (tc : Option CreateTaskCmd) (wt : Bool) (t0 t : Time) (r : PromiseRow)
    (hs : r.state = 1) (ht : r.timeout ≤ t) :
    ∃ k, (createPromiseInner req tc wt t0).next t (gotRow r) = .yield [.store (completeTx (timeoutCmd req.id r.toPromise) t)] k :=
  let ⟨k, hk, _⟩ := createPromiseInner_overdue req tc wt t0 t r hs ht; ⟨k, hk⟩

/-! ### the background sweep selects exactly the overdue pending promises (regenerated guard) -/

theorem sweep_guard (c : ReadPromisesCmd) (r : PromiseRow) :
    promiseSelectAll_where c r = true ↔ (r.state = 1 ∧ r.timeout ≤ c.time) := by
  simp [promiseSelectAll_where]

/-- the sweep issues, for each row it read, exactly the time-out completion block of that row -/
theorem sweep_times_out_what_it_read (env : Env) (t0 t : Time) (rows : List PromiseRow) (hne : rows ≠ [])
    (hp : ∀ r ∈ rows, r.state = 1) (ht : ∀ r ∈ rows, r.timeout ≤ t) :
    ∃ k, (timeoutPromises env t0).next t [.store [.promises rows]] =
      .yield (rows.map fun r => .store (completeTx (timeoutCmd r.id r.toPromise) t)) k := by
  have h1 : rows.any (fun r => r.state != P_PENDING) = false := by
    simp only [List.any_eq_false]; intro r hr; simp [P_PENDING, hp r hr]
  have h2 : rows.any (fun r => !decide (r.timeout ≤ t)) = false := by
    simp only [List.any_eq_false]; intro r hr; simp [ht r hr]
  change ∃ k, (if (rows.any fun r => r.state != P_PENDING) = true then _ else if (rows.any fun r => !decide (r.timeout ≤ t)) = true then _
    else if rows.isEmpty = true then _ else _) = _
  rw [h1, h2, List.isEmpty_eq_false_iff.mpr hne]
  exact ⟨_, rfl⟩

/-! ### Finding F5 (witness): a FRESH create with a timeout already in the past answers 201 PENDING -/

/-- the create path never compares the requested timeout with the clock: the created promise is reported
    pending whatever its timeout -/
theorem fresh_create_reports_pending (req : CreatePromiseReq) (t0 t : Time) :
    ∃ k, (createPromise req t0).next t gotNone = .yield [.router (promiseOfCreate { id := req.id, param := req.param, timeout := req.timeout, idempotencyKey := req.idempotencyKey, tags := req.tags, createdOn := t })] k ∧
      (promiseOfCreate { id := req.id, param := req.param, timeout := req.timeout, idempotencyKey := req.idempotencyKey, tags := req.tags, createdOn := t }).state = P_PENDING :=
  -- by unfolding `createPromise` → `createPromiseInner` (no row read) → `createPromiseChild`, whose first act is the router
  -- question; `promiseOfCreate` sets `state := P_PENDING` without looking at the timeout
  ⟨_, rfl, rfl⟩

/-! ### non-vacuity -/
example : (timeoutCmd "a" { id := "a", state := 1, param := {}, value := {}, timeout := 7, idempotencyKeyForCreate := none, idempotencyKeyForComplete := none, tags := [("resonate:timeout", "true")], createdOn := none, completedOn := none }).state = 2 := by decide

end Resonate.C04
