/-
  Properties/C14.lean — search with cursors returns exactly the matching set, once each, newest first.
-/
import Resonate.Model.SqlSpec
import Resonate.Model.Coroutines
import Resonate.Proofs.Paging
import Resonate.Proofs.Frame
import Resonate.Proofs.Lift
namespace Resonate.C14
open SqlSpec

variable (d : Dialect)

/-- the query of a promise search: id pattern (LIKE after `*`→`%`), state mask, tag filter -/
def pMatches (c : SearchPromisesCmd) (r : PromiseRow) : Bool :=
  dLike d r.id (starToPercent c.id) && ((r.state &&& maskOf c.states) != 0) && dTagsMatch d r.tags c.tags

def sMatches (c : SearchSchedulesCmd) (r : ScheduleRow) : Bool :=
  dLike d r.id (starToPercent c.id) && dTagsMatch d r.tags c.tags

theorem cursor_guard (c : Option Int) (s : Nat) : ((dSortIdArg d c).isNone || sqlLtO (Int.ofNat s) c) = below c s := by
  cases d <;> cases c <;> rfl

theorem promiseSearch_where_eq (c : SearchPromisesCmd) (r : PromiseRow) :
    promiseSearch_where d c r = (below c.sortId r.sortId && pMatches d c r) := by
  simp only [promiseSearch_where, cursor_guard, pMatches, Bool.and_assoc]

theorem scheduleSearch_where_eq (c : SearchSchedulesCmd) (r : ScheduleRow) :
    scheduleSearch_where d c r = (below c.sortId r.sortId && sMatches d c r) := by
  simp only [scheduleSearch_where, cursor_guard, sMatches, Bool.and_assoc]

/-- **One page = `pageOf`.** The store's answer to a promise search with a positive limit is exactly the
    abstract page: qualifying rows (matching, strictly below the cursor), newest first, first `limit`. -/
theorem search_is_page (db : Db) (c : SearchPromisesCmd) (hid : c.id ≠ "") (hl : 0 ≤ c.limit) :
    db.exec (defs d) (.searchPromises c) =
      .ok (db, .promises ((pageOf db.promises (·.sortId) (pMatches d c) c.sortId c.limit.toNat).map promiseSearch_proj)) := by
  -- the clause of `Db.exec` is `if c.id == "" then .error … else .ok (db, .promises ((takeLimit c.limit (filter WHERE …).reverse).map proj))`;
  -- so for schedules
  rw [← takeLimit_eq_pageOf _ _ _ _ _ _ hl (promiseSearch_where_eq d c)]
  exact if_neg (fun h => hid (eq_of_beq h))

theorem search_schedules_is_page (db : Db) (c : SearchSchedulesCmd) (hid : c.id ≠ "") (hl : 0 ≤ c.limit) :
    db.exec (defs d) (.searchSchedules c) =
      .ok (db, .schedules ((pageOf db.schedules (·.sortId) (sMatches d c) c.sortId c.limit.toNat).map scheduleSearch_proj)) := by
  rw [← takeLimit_eq_pageOf _ _ _ _ _ _ hl (scheduleSearch_where_eq d c)]
  exact if_neg (fun h => hid (eq_of_beq h))

/-- the projection of a search keeps every column (including `sort_id`, from which the cursor is made) -/
theorem search_proj_id (r : PromiseRow) : promiseSearch_proj r = r := rfl

/-! ### sort ids: strictly increasing in table order, for ever (arbitrary commands) -/

def PromSorted (db : Db) : Prop :=
  db.promises.Pairwise (fun a b => a.sortId < b.sortId) ∧ ∀ r ∈ db.promises, r.sortId ≤ db.seqP

theorem promSorted_exec (db db' : Db) (cmd : Cmd) (r : Res) (hi : PromSorted db)
    (h : db.exec (defs d) cmd = .ok (db', r)) : PromSorted db' := by
  unfold PromSorted at *
  cases exec_promises h with
  | same hp hs => rw [hp]; exact ⟨hi.1, fun r hr => Nat.le_trans (hi.2 r hr) hs⟩
  | insert c _ hp hs =>
    -- the new row carries the next sequence number, above every stored sort id
    rw [hp, hs, List.pairwise_append]
    refine ⟨⟨hi.1, List.pairwise_singleton _ _, fun a ha b hb => ?_⟩, fun r hr => ?_⟩
    · rw [List.mem_singleton.mp hb]; exact Nat.lt_succ_of_le (hi.2 a ha)
    · rcases List.mem_append.mp hr with hr | hr
      · exact Nat.le_succ_of_le (hi.2 r hr)
      · rw [List.mem_singleton.mp hr]; exact Nat.le_refl _
  | complete c _ _ hp hs =>
    -- the UPDATE does not assign `sort_id`
    rw [hp, hs]
    exact ⟨pairwise_updateWhere PromiseRow.sortId _ _ _ (fun _ => rfl) hi.1,
      forall_mem_updateWhere _ _ _ (fun _ h _ => h) hi.2⟩

theorem promSorted_batches (bs : List (List (List Cmd))) (db : Db) (h : PromSorted db) : PromSorted (db.execBatches (defs d) bs) :=
  execBatches_inv (defs d) PromSorted (fun db db' c r hi hx => promSorted_exec d db db' c r hi hx) bs db h

/-! ### the page-level guarantees, on any database reachable by any command history -/

/-- nothing that does not match is returned; everything returned is a stored row below the cursor -/
theorem page_sound_promises (db : Db) (c : SearchPromisesCmd) (r : PromiseRow)
    (hr : r ∈ pageOf db.promises (·.sortId) (pMatches d c) c.sortId c.limit.toNat) :
    r ∈ db.promises ∧ pMatches d c r = true ∧ below c.sortId r.sortId = true := page_sound _ _ _ _ _ r hr

/-- newest first, at most the page size -/
theorem page_order (db : Db) (hs : PromSorted db) (c : SearchPromisesCmd) :
    (pageOf db.promises (·.sortId) (pMatches d c) c.sortId c.limit.toNat).Pairwise (fun a b => b.sortId < a.sortId) ∧
    (pageOf db.promises (·.sortId) (pMatches d c) c.sortId c.limit.toNat).length ≤ c.limit.toNat :=
  ⟨page_descending _ _ _ _ _ hs.1, page_length _ _ _ _ _⟩

/-- a matching row below the cursor is returned on this page, or the page is full and the row is older
    than every row on it — so it is found on a later page (also when other rows are created, completed or
    timed out between pages: sort ids never change and new rows get larger ones) -/
theorem page_complete_promises (db : Db) (hs : PromSorted db) (c : SearchPromisesCmd) (r : PromiseRow) (hr : r ∈ db.promises)
    (hm : pMatches d c r = true) (hb : below c.sortId r.sortId = true) :
    r ∈ pageOf db.promises (·.sortId) (pMatches d c) c.sortId c.limit.toNat ∨
    ((pageOf db.promises (·.sortId) (pMatches d c) c.sortId c.limit.toNat).length = c.limit.toNat ∧
      ∀ x ∈ pageOf db.promises (·.sortId) (pMatches d c) c.sortId c.limit.toNat, r.sortId < x.sortId) :=
  page_complete _ _ _ _ _ hs.1 r hr hm hb

/-- **whole traversal on a fixed database**: following the cursors to the end returns exactly the matching
    rows, each once, newest first, in pages of at most `n` -/
theorem traversal_exact (db : Db) (hs : PromSorted db) (c : SearchPromisesCmd) (n : Nat) (hn : 0 < n) :
    ∃ pages : List (List PromiseRow),
      pages.flatten = (db.promises.filter fun r => below c.sortId r.sortId && pMatches d c r).reverse ∧ ∀ p ∈ pages, p.length ≤ n :=
  traversal db.promises (·.sortId) (pMatches d c) n hn hs.1 _ c.sortId (Nat.le_mul_of_pos_right _ hn)

/-! ### the coroutine: cursor present exactly when the page was full; overdue hits are timed out first -/

/-- the continuation of `SearchPromises` after its store read -/
def searchK (req : SearchPromisesReq) (t0 : Time) : Time → List Cpl → Co :=
  match Coro.searchPromises req t0 with
  | .yield _ k => k
  | _ => fun _ _ => .retry

/-- `SearchPromises` on a completion without overdue pending promises answers OK with the rows as they are,
    and a cursor (the request with `sortId :=` the last row's sort id) exactly when `rows = limit` -/
theorem search_response (req : SearchPromisesReq) (t0 t : Time) (rows : List PromiseRow) (hid : req.id ≠ "") (hl : 0 < req.limit)
    (hnone : (rows.map PromiseRow.toPromise).filter (fun p => p.state == P_PENDING && decide (p.timeout ≤ t)) = []) :
    searchK req t0 t [.store [.promises rows]] = .done (some (.searchPromises S_OK (rows.map PromiseRow.toPromise)
        (if (rows.length : Int) == req.limit then some { req with sortId := some (match rows.getLast? with | some r => (r.sortId : Int) | none => 0) } else none))) := by
  unfold searchK Coro.searchPromises
  rw [if_neg (fun h => hid (eq_of_beq h)), if_neg (Int.not_le.mpr hl)]
  dsimp only
  rw [hnone]
  rfl

/-- if the page contains pending promises whose timeout has passed, the coroutine does not answer: it
    times each of them out (the four-command completion block, completed_on = timeout) and searches again -/
theorem search_times_out_overdue_first (req : SearchPromisesReq) (t0 t : Time) (rows : List PromiseRow) (hid : req.id ≠ "") (hl : 0 < req.limit)
    (p : Promise) (ps : List Promise)
    (hsome : (rows.map PromiseRow.toPromise).filter (fun p => p.state == P_PENDING && decide (p.timeout ≤ t)) = p :: ps) :
    ∃ k2, searchK req t0 t [.store [.promises rows]] = .yield ((p :: ps).map fun p => .store (Coro.completeTx (Coro.timeoutCmd p.id p) t)) k2 := by
  unfold searchK Coro.searchPromises
  rw [if_neg (fun h => hid (eq_of_beq h)), if_neg (Int.not_le.mpr hl)]
  dsimp only
  rw [hsome]
  exact ⟨_, rfl⟩

/-! ### non-vacuity -/
example : PromSorted { promises := [], seqP := 0 } := ⟨List.Pairwise.nil, by intro r hr; cases hr⟩
example : below (some 5) 3 = true ∧ below (some 5) 5 = false ∧ below none 7 = true := by decide

end Resonate.C14
