/-
  Proofs/NoPanic.lean — no coroutine reaches an assertion (`.panic`) when it is resumed with completions
  that ANSWER its submissions: one completion per submission, each either an error or — for a store
  transaction — the results of executing that transaction on some database with unique keys and valid
  promise states.  (That the kernel delivers exactly such completions is Proofs/Kernel.lean: `kinv_execStore`, `resume_runnable`.)
-/
import Resonate.Model.Coroutines
import Resonate.Model.SqlSpec
import Resonate.Proofs.Guards
import Resonate.Proofs.PromIds
import Resonate.Proofs.PromiseInv
import Resonate.Proofs.StoreBasics
import Resonate.Proofs.Frame
import Resonate.Proofs.CoSteps
namespace Resonate
open SqlSpec Coro

/-- keys are unique in every table that is updated by key, and stored promise states are the five legal ones -/
structure Keys (db : Db) : Prop where
  prom : PromIds db
  sched : List.Pairwise (fun a b : ScheduleRow => a.id ≠ b.id) db.schedules
  lock : List.Pairwise (fun a b : LockRow => a.resourceId ≠ b.resourceId) db.locks
  task : List.Pairwise (fun a b : TaskRow => a.id ≠ b.id) db.tasks
  states : ∀ r ∈ db.promises, r.state = 1 ∨ r.state = 2 ∨ r.state = 4 ∨ r.state = 8 ∨ r.state = 16
  /-- an invocation task exists only together with its promise (they are born in one command, promises never disappear) -/
  invoke : ∀ t ∈ db.tasks, ∀ id, t.id = invokeId id → ∃ p ∈ db.promises, p.id = id

/-- `lo` = a database the coroutine's history has already seen (everything later only accumulates promises: `PromMono`);
    `hi` = a database at or after every transaction of this round of completions -/
def AnswerOne (d : Dialect) (lo hi : Db) : Subm → Cpl → Prop
  | _, .err => True
  | .store tx, .store rs => ∃ db db', PromMono lo db ∧ Keys db ∧ db.execTx (defs d) tx = .ok (db', rs) ∧ PromMono db' hi
  | .router _, .router _ _ => True
  | .sender _, .sender _ => True
  | _, _ => False

def Answers (d : Dialect) (lo hi : Db) : List Subm → List Cpl → Prop
  | [], [] => True
  | s :: ss, c :: cs => AnswerOne d lo hi s c ∧ Answers d lo hi ss cs
  | _, _ => False

/-- There is no constructor for `.panic`: that is what the predicate says.
    `now` = the clock when the coroutine last ran: it is resumed at a clock that is not earlier (ticks are non-decreasing) -/
inductive NoPanic (d : Dialect) : Db → Time → Co → Prop
  | done (lo : Db) (now : Time) (o : Option Resp) : NoPanic d lo now (.done o)
  | retry (lo : Db) (now : Time) : NoPanic d lo now .retry
  | yield (lo : Db) (now : Time) (subs : List Subm) (k : Time → List Cpl → Co) :
      (∀ t cpls hi, now ≤ t → PromMono lo hi → Answers d lo hi subs cpls → NoPanic d hi t (k t cpls)) → NoPanic d lo now (.yield subs k)

theorem answers_forall2 {d : Dialect} {lo hi : Db} : ∀ {subs : List Subm} {cpls : List Cpl},
    Answers d lo hi subs cpls → Forall2 (AnswerOne d lo hi) subs cpls
  | [], [], _ => .nil
  | _ :: _, _ :: _, h => .cons h.1 (answers_forall2 h.2)
  | [], _ :: _, h | _ :: _, [], h => h.elim

theorem answers_single {d : Dialect} {lo hi : Db} {s : Subm} {cpls : List Cpl} (h : Answers d lo hi [s] cpls) :
    ∃ c, cpls = [c] ∧ AnswerOne d lo hi s c := by
  cases answers_forall2 h with
  | cons h1 h2 => cases h2; exact ⟨_, rfl, h1⟩

theorem answerOne_store {d : Dialect} {lo hi : Db} {tx : List Cmd} {c : Cpl} (h : AnswerOne d lo hi (.store tx) c) :
    c = .err ∨ ∃ rs db db', c = .store rs ∧ Keys db ∧ db.execTx (defs d) tx = .ok (db', rs) ∧ PromMono lo db ∧ PromMono db' hi := by
  cases c with
  | err => exact .inl rfl
  | store rs => obtain ⟨db, db', hlo, hk, hx, hhi⟩ := h; exact .inr ⟨rs, db, db', rfl, hk, hx, hlo, hhi⟩
  | router m r | sender b => exact h.elim

theorem answers_store {d : Dialect} {lo hi : Db} {tx : List Cmd} {cpls : List Cpl} (h : Answers d lo hi [.store tx] cpls) :
    cpls = [.err] ∨ ∃ rs db db', cpls = [.store rs] ∧ Keys db ∧ db.execTx (defs d) tx = .ok (db', rs) ∧ PromMono lo db ∧ PromMono db' hi := by
  obtain ⟨c, rfl, hc⟩ := answers_single h
  rcases answerOne_store hc with rfl | ⟨rs, db, db', rfl, h'⟩
  · exact .inl rfl
  · exact .inr ⟨rs, db, db', rfl, h'⟩

theorem ans_one {d : Dialect} {lo hi : Db} {c : Cmd} {cpls : List Cpl} (h : Answers d lo hi [.store [c]] cpls) :
    cpls = [.err] ∨ ∃ db, Keys db ∧ PromMono lo db ∧ PromMono db hi ∧ cpls = [.store [db.resOf (defs d) c]] := by
  rcases answers_store h with rfl | ⟨rs, db, db', rfl, hk, hx, hlo, hhi⟩
  · exact .inl rfl
  · obtain ⟨r, he, rfl⟩ := execTx_one hx
    exact .inr ⟨db, hk, hlo, (promMono_exec d db db' c r he).trans hhi, by rw [exec_res he]⟩

theorem np_one {d : Dialect} {lo : Db} {now : Time} {c : Cmd} {k : Time → List Cpl → Co}
    (herr : ∀ hi t, NoPanic d hi t (k t [.err]))
    (hok : ∀ db hi t, Keys db → PromMono lo db → PromMono db hi → now ≤ t → NoPanic d hi t (k t [.store [db.resOf (defs d) c]])) :
    NoPanic d lo now (.yield [.store [c]] k) := by
  refine .yield _ _ _ _ fun t cpls hi ht _ h => ?_
  rcases ans_one h with rfl | ⟨db, hk, hlo, hhi, rfl⟩
  · exact herr hi t
  · exact hok db hi t hk hlo hhi ht

/-- the writes that address one row by its key -/
def Cmd.keyed : Cmd → Bool
  | .createPromise _ | .updatePromise _ | .createCallback _ | .createSchedule _ | .deleteSchedule _ | .updateTask _
  | .acquireLock _ | .releaseLock _ => true
  | _ => false

/-- on a database with unique keys a keyed write reports at most one row: an insert is conditional, and the guard of
    an UPDATE or DELETE fixes the key -/
theorem resOf_keyed (d : Dialect) {db : Db} (hk : Keys db) {c : Cmd} (hc : c.keyed = true) :
    ∃ n, db.resOf (defs d) c = .rows n ∧ n ≤ 1 := by
  cases c with
  | createPromise c | createCallback c | createSchedule c => exact ⟨_, rfl, by split <;> omega⟩
  | updatePromise c =>
    exact ⟨_, rfl, countP_le_one PromiseRow.id _ c.id hk.prom fun a ha => ((promiseUpdate_where_iff c a).mp ha).1⟩
  | deleteSchedule c =>
    exact ⟨_, rfl, countP_le_one ScheduleRow.id _ c.id hk.sched fun a ha => by simpa [defs, scheduleDelete_where] using ha⟩
  | updateTask c =>
    exact ⟨_, rfl, countP_le_one TaskRow.id _ c.id hk.task fun a ha => ((taskUpdate_where_iff c a).mp ha).1⟩
  | releaseLock c =>
    exact ⟨_, rfl, countP_le_one LockRow.resourceId _ c.resourceId hk.lock fun a ha => by simp [defs, lockRelease_where] at ha; exact ha.1⟩
  | acquireLock c =>
    refine ⟨_, rfl, ?_⟩
    split
    · exact countP_le_one LockRow.resourceId _ c.resourceId hk.lock fun a ha => by simp [defs, lockAcquire_row] at ha; exact ha.1
    · exact Nat.le_refl _
  | _ => cases hc

theorem ans_readSchedule {d : Dialect} {c : ReadScheduleCmd} {cpls : List Cpl} {lo hi : Db} (h : Answers d lo hi [.store [.readSchedule c]] cpls) :
    readScheduleRow cpls = .err ∨ readScheduleRow cpls = .none ∨ ∃ r, readScheduleRow cpls = .one r := by
  rcases ans_one h with rfl | ⟨db, _, _, _, rfl⟩
  · exact .inl rfl
  · rcases take_one_map (db.schedules.filter ((defs d).scheduleSelect_where c)) (defs d).scheduleSelect_proj with hl | ⟨a, _, hl⟩
    · exact .inr (.inl (by simp only [Db.resOf, hl]; rfl))
    · exact .inr (.inr ⟨_, by simp only [Db.resOf, hl]; rfl⟩)

/-- as `Tree.ite` (Proofs/Tree.lean): branching without `split`'s rewriting pass -/
theorem NoPanic.ite {d : Dialect} {lo : Db} {now : Time} {c : Prop} [Decidable c] {a b : Co}
    (ha : c → NoPanic d lo now a) (hb : ¬c → NoPanic d lo now b) : NoPanic d lo now (if c then a else b) := by
  split
  · exact ha ‹_›
  · exact hb ‹_›

/-- closes a subtree made of `if`s and finished leaves only -/
macro "np_leaves" : tactic =>
  `(tactic| repeat' (first | exact NoPanic.done _ _ _ | exact NoPanic.retry _ _ | refine NoPanic.ite (fun _ => ?_) (fun _ => ?_)))

theorem np_readSchedule (d : Dialect) (id : String) (t0 : Time)  (lo : Db) (now : Time) : NoPanic d lo now (readSchedule id t0) := by
  unfold readSchedule
  refine NoPanic.yield _ _ _ _ ?_
  intro t cpls hi _ _ h
  rcases ans_readSchedule h with h1 | h1 | ⟨r, h1⟩ <;> rw [h1] <;> exact NoPanic.done _ _ _

/-- a keyed write followed by the continuation `rowsK` (Proofs/CoSteps.lean; the model writes that match out in each
    coroutine, and unification recognises it): the only answers are an error and `rows n`, `n ≤ 1` -/
theorem np_rowsK {d : Dialect} {lo : Db} {now : Time} {c : Cmd} (hc : c.keyed = true) {site bad : String} {k : Nat → Co}
    (hk : ∀ n ≤ 1, ∀ hi t, PromMono lo hi → NoPanic d hi t (k n)) :
    NoPanic d lo now (.yield [.store [c]] fun _ cpls => rowsK site bad k cpls) := by
  refine np_one (fun _ _ => .done _ _ _) fun db hi t hk' hlo hhi _ => ?_
  obtain ⟨n, hr, hn⟩ := resOf_keyed d hk' hc
  rw [hr]
  exact .ite (fun h => absurd h (by omega)) fun _ => hk n hn _ _ (hlo.trans hhi)

theorem np_deleteSchedule (d : Dialect) (id : String) (t0 : Time)  (lo : Db) (now : Time) : NoPanic d lo now (deleteSchedule id t0) :=
  np_rowsK rfl fun _ _ _ _ _ => .done _ _ _

theorem np_releaseLock (d : Dialect) (res ex : String) (t0 : Time)  (lo : Db) (now : Time) : NoPanic d lo now (releaseLock res ex t0) :=
  np_rowsK rfl fun _ _ _ _ _ => .done _ _ _

theorem np_acquireLock (d : Dialect) (req : AcquireLockReq) (t0 : Time)  (lo : Db) (now : Time) : NoPanic d lo now (acquireLock req t0) :=
  np_rowsK rfl fun _ _ _ _ _ => .ite (fun _ => .done _ _ _) fun _ => .done _ _ _

theorem np_heartbeatLocks (d : Dialect) (pid : String) (t0 : Time)  (lo : Db) (now : Time) : NoPanic d lo now (heartbeatLocks pid t0) :=
  np_one (fun _ _ => .done _ _ _) fun _ _ _ _ _ _ _ => .done _ _ _

theorem np_heartbeatTasks (d : Dialect) (pid : String) (t0 : Time)  (lo : Db) (now : Time) : NoPanic d lo now (heartbeatTasks pid t0) :=
  np_one (fun _ _ => .done _ _ _) fun _ _ _ _ _ _ _ => .done _ _ _

theorem np_timeoutLocks (d : Dialect) (t0 : Time)  (lo : Db) (now : Time) : NoPanic d lo now (timeoutLocks t0) :=
  np_one (fun _ _ => .done _ _ _) fun _ _ _ _ _ _ _ => .done _ _ _

def validState (n : Nat) : Prop := n = 1 ∨ n = 2 ∨ n = 4 ∨ n = 8 ∨ n = 16

theorem ans_readPromise {d : Dialect} {c : ReadPromiseCmd} {cpls : List Cpl} {lo hi : Db} (h : Answers d lo hi [.store [.readPromise c]] cpls) :
    readPromiseRow cpls = .err ∨ readPromiseRow cpls = .none ∨
      ∃ r, readPromiseRow cpls = .one r ∧ validState r.state ∧ ∃ x ∈ hi.promises, x.id = c.id := by
  rcases ans_one h with rfl | ⟨db, hk, _, hhi, rfl⟩
  · exact .inl rfl
  · rcases take_one_map (db.promises.filter ((defs d).promiseSelect_where c)) (defs d).promiseSelect_proj with hl | ⟨a, ham, hl⟩
    · exact .inr (.inl (by simp only [Db.resOf, hl]; rfl))
    · obtain ⟨ha, hid⟩ := List.mem_filter.mp ham
      exact .inr (.inr ⟨(defs d).promiseSelect_proj a, by simp only [Db.resOf, hl]; rfl, hk.states a ha,
        promMono_has hhi ⟨a, ha, by simpa [defs, promiseSelect_where] using hid⟩⟩)

/-- a promise that a database of the coroutine's past holds is found by every later read -/
theorem ans_readPromise_exists {d : Dialect} {c : ReadPromiseCmd} {cpls : List Cpl} {lo hi : Db} (h : Answers d lo hi [.store [.readPromise c]] cpls)
    (hex : ∃ x ∈ lo.promises, x.id = c.id) : readPromiseRow cpls = .err ∨ ∃ r, readPromiseRow cpls = .one r := by
  rcases ans_one h with rfl | ⟨db, _, hlo, _, rfl⟩
  · exact .inl rfl
  · obtain ⟨x, hxm, hxid⟩ := promMono_has hlo hex
    rcases take_one_map (db.promises.filter ((defs d).promiseSelect_where c)) (defs d).promiseSelect_proj with hl | ⟨a, _, hl⟩
    · have : x ∈ db.promises.filter ((defs d).promiseSelect_where c) :=
        List.mem_filter.mpr ⟨hxm, by simp [defs, promiseSelect_where, hxid]⟩
      rw [hl] at this; cases this
    · exact .inr ⟨_, by simp only [Db.resOf, hl]; rfl⟩

/-- the completion block answers with an error or with `[rows n0, rows _, rows k, rows k]`, `n0 ≤ 1`: `completeOut` never panics -/
theorem ans_completeTx {d : Dialect} {lo hi : Db} {cmd : UpdatePromiseCmd} {t : Time} {c : Cpl}
    (h : AnswerOne d lo hi (.store (completeTx cmd t)) c) : completeOut c = .err ∨ ∃ b, completeOut c = .ok b := by
  rcases answerOne_store h with rfl | ⟨rs, db, db', rfl, hk, hx, _, _⟩
  · exact .inl rfl
  · obtain ⟨_, _, s, n, hins, rfl⟩ := completeBlock_ok hx
    -- as many tasks are created as registrations deleted: both statements select the registrations on `cmd.id`
    have hn : n = countP ((defs d).callbackDelete_where ⟨cmd.id⟩) db.callbacks := by
      rw [(insertTasksFrom_ok hins).1, List.length_mergeSort]; rfl
    -- the guarded UPDATE reports at most one row (`⟨⟩`: the `rows n` of `resOf_keyed` is the count `completeBlock_ok` gave)
    obtain ⟨_, ⟨⟩, h0⟩ := resOf_keyed d hk (c := .updatePromise cmd) rfl
    exact .inr ⟨_, by simp [completeOut, Nat.not_lt.mpr h0, hn]; rfl⟩

theorem np_completeCont (d : Dialect) (lo : Db) (now : Time) (cmd : UpdatePromiseCmd) (t : Time) (onTrue : Co) (hT : ∀ hi t', NoPanic d hi t' onTrue) (site : String) :
    NoPanic d lo now (.yield [.store (completeTx cmd t)] fun _ cpls2 =>
      match cpls2 with
      | [c] =>
        match completeOut c with
        | .err => errResp S_AIO_STORE
        | .panic s => .panic s
        | .ok false => .retry
        | .ok true => onTrue
      | _ => .panic site) := by
  refine NoPanic.yield _ _ _ _ ?_
  intro t' cpls hi _ _ h
  obtain ⟨c, rfl, hc⟩ := answers_single h
  rcases ans_completeTx hc with h1 | ⟨b, h1⟩ <;> simp only [h1]
  · exact NoPanic.done _ _ _
  · cases b <;> first | exact NoPanic.retry _ _ | exact hT _ _

theorem np_readPromise (d : Dialect) (id : String) (t0 : Time)  (lo : Db) (now : Time) : NoPanic d lo now (readPromise id t0) := by
  unfold readPromise
  refine NoPanic.yield _ _ _ _ ?_
  intro t cpls hi _ _ h
  rcases ans_readPromise h with h1 | h1 | ⟨r, h1, _, hex⟩ <;> rw [h1]
  · exact NoPanic.done _ _ _
  · exact NoPanic.done _ _ _
  · exact .ite (fun _ => np_completeCont d _ _ _ _ _ (fun _ _ => NoPanic.done _ _ _) _) fun _ => .done _ _ _

theorem alreadyCompleted_some (n : Nat) (hv : validState n) (hp : (n == P_PENDING) = false) : ∃ st, alreadyCompletedStatus n = some st := by
  unfold alreadyCompletedStatus
  rcases hv with h | h | h | h | h <;> subst h <;> simp_all [P_PENDING, P_RESOLVED, P_REJECTED, P_CANCELED, P_TIMEDOUT]

theorem np_completePromise (d : Dialect) (req : CompletePromiseReq) (t0 : Time)  (lo : Db) (now : Time) : NoPanic d lo now (completePromise req t0) := by
  unfold completePromise
  refine NoPanic.yield _ _ _ _ ?_
  intro t cpls hi _ _ h
  rcases ans_readPromise h with h1 | h1 | ⟨r, h1, hv, _⟩ <;> rw [h1]
  · exact NoPanic.done _ _ _
  · exact NoPanic.done _ _ _
  · refine .ite (fun _ => np_completeCont d _ _ _ _ _ (fun _ _ => NoPanic.done _ _ _) _) fun hp => ?_
    obtain ⟨st, hst⟩ := alreadyCompleted_some r.toPromise.state (by simpa [PromiseRow.toPromise] using hv) (by simpa using hp)
    simp only [hst]
    exact NoPanic.done _ _ _

/-! ### searches (the front ends guarantee a non-empty pattern and a positive limit) -/

theorem np_searchSchedules (d : Dialect) (req : SearchSchedulesReq) (t0 : Time) (hid : req.id ≠ "") (hl : 0 < req.limit) (lo : Db) (now : Time) :
    NoPanic d lo now (searchSchedules req t0) := by
  unfold searchSchedules
  exact .ite (fun h => absurd (by simpa using h) hid) fun _ => .ite (fun h => absurd h (by omega)) fun _ =>
    np_one (fun _ _ => .done _ _ _) fun _ _ _ _ _ _ _ => .done _ _ _

theorem answers_mem {d : Dialect} {lo hi : Db} (subs : List Subm) (cpls : List Cpl) (h : Answers d lo hi subs cpls) :
    cpls.length = subs.length ∧ ∀ c ∈ cpls, ∃ s ∈ subs, AnswerOne d lo hi s c :=
  ⟨(forall2_length (answers_forall2 h)).symm, forall2_mem_right (answers_forall2 h)⟩

/-- a round of completion blocks, as the time-out sweep and the search submit it: no outcome is a panic
    (`ans_completeTx`), so the continuation's search for one finds none -/
theorem np_completeAll {d : Dialect} {lo : Db} {now : Time} {α : Type} (f : α → UpdatePromiseCmd) (t : Time) (l : List α)
    {k : List Cpl → Co} (hk : ∀ cpls hi t', NoPanic d hi t' (k cpls)) :
    NoPanic d lo now (.yield (l.map fun x => .store (completeTx (f x) t)) fun _ cpls =>
      match (cpls.map completeOut).find? (fun o => match o with | .panic _ => true | _ => false) with
      | some (.panic s) => .panic s
      | _ => k cpls) := by
  refine .yield _ _ _ _ fun t' cpls hi _ _ h => ?_
  split
  · rename_i s heq
    obtain ⟨c, hc, hco⟩ := List.mem_map.mp (List.mem_of_find?_eq_some heq)
    obtain ⟨_, hs, hx⟩ := (answers_mem _ _ h).2 c hc
    obtain ⟨x, _, rfl⟩ := List.mem_map.mp hs
    rcases ans_completeTx hx with h1 | ⟨b, h1⟩ <;> rw [h1] at hco <;> cases hco
  · exact hk _ _ _

theorem np_searchPromises (d : Dialect) (req : SearchPromisesReq) (t0 : Time) (hid : req.id ≠ "") (hl : 0 < req.limit) (lo : Db) (now : Time) :
    NoPanic d lo now (searchPromises req t0) := by
  unfold searchPromises
  refine .ite (fun h => absurd (by simpa using h) hid) fun _ => .ite (fun h => absurd h (by omega)) fun _ =>
    np_one (fun _ _ => .done _ _ _) fun db hi t _ _ _ _ => ?_
  -- the page read; then one completion block per overdue hit, none of which panics
  exact .ite (fun _ => .done _ _ _) fun _ => np_completeAll (fun p : Promise => timeoutCmd p.id p) t _ fun _ _ _ => by np_leaves

theorem np_registerCallback (d : Dialect) (pid cbId recv : String) (mesg : Mesg) (timeout : Int) (lo : Db) (now : Time) :
    NoPanic d lo now (registerCallback pid cbId recv mesg timeout) := by
  unfold registerCallback
  refine NoPanic.yield _ _ _ _ ?_
  intro t cpls hi _ _ h
  rcases ans_readPromise h with h1 | h1 | ⟨r, h1, _, hex⟩ <;> rw [h1]
  · exact NoPanic.done _ _ _
  · exact NoPanic.done _ _ _
  · -- pending: write the registration; not pending: answer at once
    refine .ite (fun _ => np_rowsK rfl fun n _ hi2 _ hm2 => ?_) fun _ => .done _ _ _
    -- no row written: answer; a row written: read the promise again — the one read above is in every later database
    -- (`promMono_has`), so the read finds a row
    refine .ite (fun _ => .done _ _ _) fun _ => NoPanic.yield _ _ _ _ ?_
    intro t3 cpls3 hi3 _ _ h3
    rcases ans_readPromise_exists h3 (promMono_has hm2 hex) with h4 | ⟨r4, h4⟩ <;> rw [h4]
    · exact NoPanic.done _ _ _
    · exact NoPanic.done _ _ _

theorem np_createCallback (d : Dialect) (req : CreateCallbackReq) (t0 : Time) (lo : Db) (now : Time) : NoPanic d lo now (createCallback req t0) :=
  .ite (fun _ => .done _ _ _) fun _ => np_registerCallback d _ _ _ _ _ lo now

theorem np_createSchedule (d : Dialect) (env : Env) (req : CreateScheduleReq) (t0 : Time) (lo : Db) (now : Time) :
    NoPanic d lo now (createSchedule env req t0) := by
  unfold createSchedule
  refine NoPanic.yield _ _ _ _ ?_
  intro t cpls hi _ _ h
  rcases ans_readSchedule h with h1 | h1 | ⟨r, h1⟩ <;> rw [h1]
  · exact NoPanic.done _ _ _
  · dsimp only
    split
    · exact NoPanic.done _ _ _
    · exact np_rowsK rfl fun _ _ _ _ _ => by np_leaves
  · exact NoPanic.done _ _ _

theorem ans_readTask {d : Dialect} {c : ReadTaskCmd} {cpls : List Cpl} {lo hi : Db} (h : Answers d lo hi [.store [.readTask c]] cpls) :
    readTaskRow cpls = .err ∨ readTaskRow cpls = .none ∨ ∃ r, readTaskRow cpls = .one r := by
  rcases ans_one h with rfl | ⟨db, _, _, _, rfl⟩
  · exact .inl rfl
  · rcases take_one_map (db.tasks.filter ((defs d).taskSelect_where c)) (defs d).taskSelect_proj with hl | ⟨a, _, hl⟩
    · exact .inr (.inl (by simp only [Db.resOf, hl]; rfl))
    · exact .inr (.inr ⟨_, by simp only [Db.resOf, hl]; rfl⟩)

theorem np_completeTask (d : Dialect) (id : String) (counter : Int) (t0 : Time) (lo : Db) (now : Time) :
    NoPanic d lo now (completeTask id counter t0) := by
  unfold completeTask
  refine NoPanic.yield _ _ _ _ ?_
  intro t cpls hi _ _ h
  rcases ans_readTask h with h1 | h1 | ⟨r, h1⟩ <;> rw [h1]
  · exact NoPanic.done _ _ _
  · exact NoPanic.done _ _ _
  · exact .ite (fun _ => .done _ _ _) fun _ => .ite (fun _ => .done _ _ _) fun _ => .ite (fun _ => .done _ _ _) fun _ =>
      np_rowsK rfl fun _ _ _ _ _ => by np_leaves

theorem np_claimTask (d : Dialect) (env : Env) (req : ClaimTaskReq) (t0 : Time) (lo : Db) (now : Time)
    (hp : req.processId ≠ "") (httl : 0 ≤ req.ttl) : NoPanic d lo now (claimTask env req t0) := by
  unfold claimTask
  refine .ite (fun h => absurd (by simpa using h) hp) fun _ => .ite (fun h => absurd h (by omega)) fun _ => ?_
  refine NoPanic.yield _ _ _ _ ?_
  intro t cpls hi _ _ h
  rcases ans_readTask h with h1 | h1 | ⟨r, h1⟩ <;> rw [h1]
  · exact NoPanic.done _ _ _
  · exact NoPanic.done _ _ _
  · -- already claimed, already finished, wrong counter: each answers at once; else the guarded claim
    refine .ite (fun _ => .done _ _ _) fun _ => .ite (fun _ => .done _ _ _) fun _ => .ite (fun _ => .done _ _ _) fun _ =>
      np_rowsK rfl fun n _ hi2 _ _ => ?_
    -- no row: somebody else was faster, retry; one row: read the promises the task's message names
    refine .ite (fun _ => .retry _ _) fun _ => NoPanic.yield _ _ _ _ ?_
    · intro t3 cpls3 hi3 _ _ h3
      rcases answers_store h3 with rfl | ⟨rs, db, db', rfl, _, hx, _, _⟩
      · exact .done _ _ _
      · -- one result per read, each what a `readPromise` reports: a list of promise rows
        by_cases hres : (r.toTask.mesg.type == "resume") = true
        · simp only [hres, if_true] at hx ⊢
          obtain ⟨_, r1, _, e1, x1, rfl⟩ := execTx_cons_ok.mp hx
          obtain ⟨r2, e2, rfl⟩ := execTx_one x1
          rw [exec_res e1, exec_res e2]
          exact .done _ _ _
        · simp only [hres] at hx ⊢
          obtain ⟨r1, e1, rfl⟩ := execTx_one hx
          rw [exec_res e1]
          exact .done _ _ _

/-- what the create command reports: `rows n`, `n ≤ 1` for a bare create; `rows2 n n`, `n ≤ 1` for a create-with-task
    whose task is the promise's invocation task (`Keys.invoke`: that task exists only if the promise does, so the two
    inserts go together) -/
theorem resOf_childCmd (d : Dialect) {db : Db} (hk : Keys db) (pc : CreatePromiseCmd) (ft : Option CreateTaskCmd)
    (hft : ∀ tc, ft = some tc → tc.id = invokeId pc.id) :
    (ft = none ∧ ∃ n, db.resOf (defs d) (childCmd pc ft) = .rows n ∧ n ≤ 1) ∨
    (∃ tc, ft = some tc ∧ ∃ n, db.resOf (defs d) (childCmd pc ft) = .rows2 n n ∧ n ≤ 1) := by
  cases ft with
  | none => exact .inl ⟨rfl, resOf_keyed d hk (c := .createPromise pc) rfl⟩
  | some tc =>
    refine .inr ⟨tc, rfl, ?_⟩
    simp only [childCmd, Db.resOf]
    split
    · exact ⟨0, rfl, Nat.zero_le _⟩
    · rename_i hex
      have hnot : ¬ db.tasks.any (fun r => r.id == tc.id) = true := not_any_key.mpr fun t ht hte =>
        let ⟨p, hp, hpid⟩ := hk.invoke t ht pc.id (hte.trans (hft tc rfl))
        hex (any_key.mpr ⟨p, hp, hpid⟩)
      exact ⟨1, by rw [if_neg hnot], Nat.le_refl _⟩

theorem childTask_id {pc : CreatePromiseCmd} {taskCmd : Option CreateTaskCmd} {routed : Option String}
    (hid : ∀ tc, taskCmd = some tc → tc.id = invokeId pc.id) : ∀ tc, childTask pc taskCmd routed = some tc → tc.id = invokeId pc.id := by
  intro tc htc
  cases routed with
  | none => cases htc
  | some recv =>
    cases htc
    cases taskCmd with
    | none => rfl
    | some tc0 => exact hid tc0 rfl

/-- the child's write: its shape checks pass on every answer to `childCmd` (`resOf_childCmd`: an error, `[rows n]` or
    `[rows2 n n]`, `n ≤ 1`), so what is left is the parent's continuation on those three -/
theorem np_childStore (d : Dialect) (pc : CreatePromiseCmd) (ft : Option CreateTaskCmd)
    (hft : ∀ tc, ft = some tc → tc.id = invokeId pc.id) (k : ChildOut → Co)
    (herr : ∀ hi t, NoPanic d hi t (k (.error S_AIO_STORE)))
    (hrows : ft = none → ∀ n, n ≤ 1 → ∀ hi t, NoPanic d hi t (k (.ok [.rows n] ft)))
    (hrows2 : ∀ tc, ft = some tc → ∀ n, n ≤ 1 → ∀ hi t, NoPanic d hi t (k (.ok [.rows2 n n] ft)))
    (lo : Db) (now : Time) : NoPanic d lo now (childStore pc ft [] k) := by
  refine np_one (fun _ _ => herr _ _) fun db hi t hk _ _ _ => ?_
  rcases resOf_childCmd d hk pc ft hft with ⟨hnone, n, hr, hn⟩ | ⟨tc, hsome, n, hr, hn⟩ <;> rw [hr]
  · exact .ite (fun h => absurd h (by simp)) fun _ => .ite (fun h => absurd h (by omega)) fun _ => hrows hnone n hn _ _
  · exact .ite (fun h => absurd h (by simp)) fun _ => .ite (fun h => absurd h (by omega)) fun _ =>
      .ite (fun h => absurd h (by simp)) fun _ => hrows2 tc hsome n hn _ _

theorem np_createPromiseInner (d : Dialect) (req : CreatePromiseReq) (taskCmd : Option CreateTaskCmd) (withTask : Bool) (t0 : Time)
    (hw : withTask = taskCmd.isSome) (hid : ∀ tc, taskCmd = some tc → tc.id = invokeId req.id) (lo : Db) (now : Time) :
    NoPanic d lo now (createPromiseInner req taskCmd withTask t0) := by
  unfold createPromiseInner
  refine NoPanic.yield _ _ _ _ ?_
  intro t cpls hi _ _ h
  rcases ans_readPromise h with h1 | h1 | ⟨r, h1, _, _⟩ <;> rw [h1] <;> dsimp only
  · exact NoPanic.done _ _ _
  · -- not there: route, then create
    unfold createPromiseChild
    refine NoPanic.yield _ _ _ _ ?_
    intro t2 cpls2 hi2 _ _ h2
    obtain ⟨rc, rfl, hrc⟩ := answers_single h2
    refine .ite (fun _ => NoPanic.done _ _ _) fun _ => .ite (fun _ => NoPanic.done _ _ _) fun hroute => ?_
    refine np_childStore d _ _ (childTask_id hid) _ (fun _ _ => NoPanic.done _ _ _) (fun hnone n _ hi3 t3 => ?_) (fun tc hsome n _ hi3 t3 => ?_) _ _
    · -- bare create: no row means somebody else created it meanwhile; a row is answered without a task
      refine .ite (fun _ => .retry _ _) fun _ => ?_
      cases hwt : withTask with
      | false => exact .ite (fun h => absurd h (by simp)) fun _ => .ite (fun h => absurd h (by simp)) fun _ => .done _ _ _
      | true =>
        -- with a task the router matched (else the S_PROMISE_RECV_NOT_FOUND branch), so the child had a task
        exfalso
        rw [hwt] at hw
        cases htc : taskCmd with
        | none => simp [htc] at hw
        | some tc0 =>
          cases hro : routeOf rc with
          | none => simp [htc, hro] at hroute
          | some recv => simp [childTask, hro] at hnone
    · -- create with task: `rows2 n n`, so the parent's own shape check passes
      refine .ite (fun _ => .retry _ _) fun _ => ?_
      rw [hsome]
      cases withTask
      · exact .ite (fun h => absurd h (by simp)) fun _ => .ite (fun h => absurd h (by simp)) fun _ => .done _ _ _
      · exact .ite (fun _ => .ite (fun _ => .done _ _ _) fun _ => .done _ _ _) fun h => absurd rfl h
  · -- there: overdue (time it out, then answer) / strict or key mismatch / idempotent answer — each ends in the request
    -- kind's response, `.done` for either value of `withTask`
    refine .ite (fun _ => np_completeCont d _ _ _ _ _ (fun _ _ => ?_) _) fun _ => .ite (fun _ => ?_) fun _ => ?_
    all_goals cases withTask <;> exact NoPanic.done _ _ _

theorem np_timeoutPromises (d : Dialect) (env : Env) (t0 : Time) (lo : Db) (now : Time) (hnow : t0 ≤ now) :
    NoPanic d lo now (timeoutPromises env t0) := by
  refine np_one (fun _ _ => .done _ _ _) fun db hi t _ _ _ ht => ?_
  -- the rows read were pending and due at `t0`, so they are at the later clock `t`
  obtain ⟨rows, hres, hrows⟩ : ∃ rows, db.resOf (defs d) (.readPromises { time := t0, limit := env.cfg.promiseBatchSize }) = .promises rows ∧
      ∀ x ∈ rows, x.state = P_PENDING ∧ x.timeout ≤ t := by
    refine ⟨_, rfl, fun x hx => ?_⟩
    obtain ⟨y, _, hyf, rfl⟩ := mem_select (fun y hy => mem_takeLimit _ _ _ hy) hx
    simp only [defs, promiseSelectAll_where, Bool.and_eq_true, beq_iff_eq, decide_eq_true_eq] at hyf
    exact ⟨hyf.1, Int.le_trans hyf.2 (Int.le_trans hnow ht)⟩
  rw [hres]
  have h1 : (rows.any fun r : PromiseRow => r.state != P_PENDING) = false := by
    rw [List.any_eq_false]; intro x hx; simp [(hrows x hx).1]
  have h2 : (rows.any fun r : PromiseRow => !(decide (r.timeout ≤ t))) = false := by
    rw [List.any_eq_false]; intro x hx; simp [(hrows x hx).2]
  exact .ite (fun h => absurd h (by simp [h1])) fun _ => .ite (fun h => absurd h (by simp [h2])) fun _ =>
    .ite (fun _ => .done _ _ _) fun _ =>
      np_completeAll (fun r : PromiseRow => timeoutCmd r.id r.toPromise) t _ fun _ _ _ => .done _ _ _

theorem and7_of_and6 (s : Nat) (h : (s &&& 6) ≠ 0) : (s &&& 7) ≠ 0 := by
  intro h7
  apply h
  have h76 : (7 &&& 6 : Nat) = 6 := by decide
  have : s &&& 6 = (s &&& 7) &&& 6 := by rw [Nat.and_assoc, h76]
  rw [this, h7]; rfl

theorem np_timeoutTasks (d : Dialect) (env : Env) (t0 : Time) (lo : Db) (now : Time) : NoPanic d lo now (timeoutTasks env t0) := by
  refine np_one (fun _ _ => .done _ _ _) fun db hi t _ _ _ _ => ?_
  -- the rows read were enqueued or claimed, states the sweep's shape check accepts
  obtain ⟨rows, hres, hrows⟩ : ∃ rows, db.resOf (defs d) (.readTasks { states := [T_ENQUEUED, T_CLAIMED], time := t0, limit := env.cfg.taskBatchSize }) = .tasks rows ∧
      ∀ x ∈ rows, ((x.state &&& (T_INIT ||| T_ENQUEUED ||| T_CLAIMED)) == 0) = false := by
    refine ⟨_, rfl, fun x hx => ?_⟩
    obtain ⟨y, _, hyf, rfl⟩ := mem_select (fun y hy => List.mem_mergeSort.mp (mem_takeLimit _ _ _ hy)) hx
    simp only [defs, taskSelectAll_where, Bool.and_eq_true, bne_iff_ne] at hyf
    simpa [defs, taskSelectAll_proj, T_INIT, T_ENQUEUED, T_CLAIMED] using and7_of_and6 y.state hyf.1
  rw [hres]
  have h1 : (rows.any fun r : TaskRow => (r.state &&& (T_INIT ||| T_ENQUEUED ||| T_CLAIMED)) == 0) = false := by
    rw [List.any_eq_false]; intro x hx; simp [hrows x hx]
  exact .ite (fun h => absurd h (by simp [h1])) fun _ => .ite (fun _ => .done _ _ _) fun _ =>
    .ite (fun _ => .done _ _ _) fun _ => .yield _ _ _ _ fun _ _ _ _ _ _ => .done _ _ _

theorem execTx_reads {g : SqlDefs} {α : Type} (f : α → ReadPromiseCmd) (l : List α) (db db' : Db) (rs : List Res)
    (h : db.execTx g (l.map fun x => .readPromise (f x)) = .ok (db', rs)) :
    rs.length = l.length ∧ ∀ r ∈ rs, ∃ rows, r = .promises rows := by
  have hf := execTx_res h
  refine ⟨by simpa using (forall2_length hf).symm, fun r hr => ?_⟩
  obtain ⟨c, hc, dbi, rfl⟩ := forall2_mem_right hf r hr
  obtain ⟨x, _, rfl⟩ := List.mem_map.mp hc
  exact ⟨_, rfl⟩

theorem np_enqueueFinish (d : Dialect) (deadCmds : List Cmd) (live : List TaskRow) (e : Int) (outs : List Cpl) (lo : Db) (now : Time) :
    NoPanic d lo now (enqueueFinish deadCmds live e outs) :=
  .ite (fun _ => .done _ _ _) fun _ => .yield _ _ _ _ fun _ _ _ _ _ _ => .done _ _ _

theorem np_enqueueTasks (d : Dialect) (env : Env) (t0 : Time) (lo : Db) (now : Time) : NoPanic d lo now (enqueueTasks env t0) := by
  refine np_one (fun _ _ => .done _ _ _) fun db hi t _ _ _ _ => ?_
  refine .ite (fun _ => .done _ _ _) fun _ => NoPanic.yield _ _ _ _ ?_
  intro t2 cpls2 hi2 _ _ h2
  rcases answers_store h2 with rfl | ⟨prs, db2, db2', rfl, _, hx2, _, _⟩
  · exact NoPanic.done _ _ _
  · obtain ⟨hlen, hall⟩ := execTx_reads (fun r : TaskRow => ({ id := r.rootPromiseId } : ReadPromiseCmd)) _ _ _ _ hx2
    -- the coroutine's three checks: one result per read (`hlen`); every result a list of promise rows (`hall`, below);
    -- nothing to send, or the hand-offs to the senders — either way `enqueueFinish`
    refine .ite (fun h => absurd h (by simp [hlen])) fun _ => .ite (fun hany => ?_) fun _ =>
      .ite (fun _ => np_enqueueFinish d _ _ _ _ _ _) fun _ => .yield _ _ _ _ fun _ _ _ _ _ _ => np_enqueueFinish d _ _ _ _ _ _
    obtain ⟨⟨rr, pr⟩, hm, hbad⟩ := List.any_eq_true.mp hany
    obtain ⟨rows, rfl⟩ := hall pr (List.of_mem_zip (List.mem_filter.mp hm).1).2
    simp at hbad

/-- the answer to a `[create…, updateSchedule]` transaction of the schedule sweep: an error, or one of the two shapes the
    sweep's check accepts -/
theorem ans_fire {d : Dialect} {lo hi : Db} (pc : CreatePromiseCmd) (ft : Option CreateTaskCmd)
    (hft : ∀ tc, ft = some tc → tc.id = invokeId pc.id) (u : UpdateScheduleCmd) {c : Cpl}
    (h : AnswerOne d lo hi (.store [childCmd pc ft, .updateSchedule u]) c) :
    c = .err ∨ (∃ n k, c = .store [.rows n, .rows k] ∧ n ≤ 1) ∨ (∃ n k, c = .store [.rows2 n n, .rows k] ∧ n ≤ 1) := by
  rcases answerOne_store h with rfl | ⟨rs, db, db', rfl, hk, hx, _, _⟩
  · exact .inl rfl
  · right
    obtain ⟨db1, r1, _, e1, x1, rfl⟩ := execTx_cons_ok.mp hx
    obtain ⟨r2, e2, rfl⟩ := execTx_one x1
    rw [exec_res e1, exec_res e2]
    rcases resOf_childCmd d hk pc ft hft with ⟨_, n, hr, hn1⟩ | ⟨tc, _, n, hr, hn1⟩ <;> rw [hr]
    · exact .inl ⟨n, _, rfl, hn1⟩
    · exact .inr ⟨n, _, rfl, hn1⟩

theorem np_schedulePromises (d : Dialect) (env : Env) (t0 : Time) (lo : Db) (now : Time) (hnow : t0 ≤ now) :
    NoPanic d lo now (schedulePromises env t0) := by
  refine np_one (fun _ _ => .done _ _ _) fun db hi t _ _ _ ht => ?_
  -- the schedules read were due at `t0`, so they are at the later clock `t`
  obtain ⟨rows, hres, hrows⟩ : ∃ rows, db.resOf (defs d) (.readSchedules { nextRunTime := t0, limit := env.cfg.scheduleBatchSize }) = .schedules rows ∧
      ∀ x ∈ rows, x.nextRunTime ≤ t := by
    refine ⟨_, rfl, fun x hx => ?_⟩
    obtain ⟨y, _, hyf, rfl⟩ := mem_select (fun y hy => List.mem_mergeSort.mp (mem_takeLimit _ _ _ hy)) hx
    simp only [defs, scheduleSelectAll_where, decide_eq_true_eq] at hyf
    exact Int.le_trans hyf (Int.le_trans hnow ht)
  rw [hres]
  have h1 : (rows.any fun r : ScheduleRow => !(decide (r.nextRunTime ≤ t))) = false := by
    rw [List.any_eq_false]; intro x hx; simp [hrows x hx]
  refine .ite (fun h => absurd h (by simp [h1])) fun _ => ?_
  refine .ite (fun _ => .done _ _ _) fun _ => NoPanic.yield _ _ _ _ ?_
  · intro t2 rcs hi2 _ _ h2
    obtain ⟨hlen, _⟩ := answers_mem _ _ h2
    refine .ite (fun h => absurd h (by simp [hlen])) fun _ => .ite (fun _ => .done _ _ _) fun _ => NoPanic.yield _ _ _ _ ?_
    · intro t3 scs hi3 _ _ h3
      obtain ⟨_, hmem⟩ := answers_mem _ _ h3
      refine .ite (fun hany => ?_) fun _ => .done _ _ _
      · exfalso
        obtain ⟨c, hc, hbad⟩ := List.any_eq_true.mp hany
        obtain ⟨sub, hsub, hans⟩ := hmem c hc
        obtain ⟨⟨⟨pc, upd⟩, rc⟩, hz, rfl⟩ := List.mem_map.mp hsub
        -- every item pairs a create command with an `updateSchedule`
        obtain ⟨u, rfl⟩ : ∃ u, upd = Cmd.updateSchedule u := by
          obtain ⟨r, _, hr⟩ := List.mem_filterMap.mp (List.of_mem_zip (List.mem_filter.mp hz).1).1
          dsimp only at hr
          split at hr
          · cases hr; exact ⟨_, rfl⟩
          · cases hr
        simp only at hans
        have key : c = .err ∨ (∃ n k, c = .store [.rows n, .rows k] ∧ n ≤ 1) ∨ (∃ n k, c = .store [.rows2 n n, .rows k] ∧ n ≤ 1) := by
          split at hans
          · rename_i recv
            exact ans_fire pc (some { id := invokeId pc.id, recv := recv, mesg := { type := "invoke", root := pc.id, leaf := pc.id }, timeout := pc.timeout, processId := none, state := T_INIT, ttl := 0, expiresAt := 0, createdOn := pc.createdOn })
              (by intro tc htc; injection htc with htc; subst htc; rfl) u hans
          · exact ans_fire pc none (by intro tc htc; cases htc) u hans
        rcases key with rfl | ⟨n, k, rfl, hn⟩ | ⟨n, k, rfl, hn⟩
        · simp at hbad
        · have : ¬ n > 1 := by omega
          simp [this] at hbad
        · have : ¬ n > 1 := by omega
          simp [this] at hbad

end Resonate
