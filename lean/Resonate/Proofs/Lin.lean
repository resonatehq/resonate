/-
  Proofs/Lin.lean — the linearisation point of a two-step request (read, then guarded write) is its write:
  when the guarded write is applied, the row the coroutine had read is — at that very instant — still exactly what
  it read, so reading and writing at that instant (what a single-threaded server would do) gives the same answer
  and the same effect.
-/
import Resonate.Proofs.PromIds
namespace Resonate
open SqlSpec

/-- what a read by id answers -/
theorem read_by_id (d : Dialect) (db : Db) (id : String) :
    db.exec (defs d) (.readPromise { id := id }) =
      .ok (db, .promises (((db.promises.filter fun r => r.id == id).take 1).map promiseSelect_proj)) := rfl

theorem read_finds (d : Dialect) (db : Db) (hk : PromIds db) (y : PromiseRow) (hy : y ∈ db.promises) :
    db.exec (defs d) (.readPromise { id := y.id }) = .ok (db, .promises [promiseSelect_proj y]) := by
  rw [read_by_id]
  rcases take_one_map (db.promises.filter fun r => r.id == y.id) promiseSelect_proj with hl | ⟨a, ha, hl⟩
  · exact absurd (beq_self_eq_true y.id) (List.filter_eq_nil_iff.mp hl y hy)
  · obtain ⟨ham, hid⟩ := List.mem_filter.mp ha
    rw [hl, promIds_unique hk ham hy (eq_of_beq hid)]

theorem read_misses (d : Dialect) (db : Db) (id : String) (h : ∀ r ∈ db.promises, r.id ≠ id) :
    db.exec (defs d) (.readPromise { id := id }) = .ok (db, .promises []) := by
  rw [read_by_id, List.filter_eq_nil_iff.mpr fun r hr he => h r hr (eq_of_beq he)]
  rfl

/-- **the write is the linearisation point.** The coroutine read row `x` in `db1`; anything may have happened since
    (`PromMono db1 db2`); where its guarded write takes effect, in `db2`, the promise is still pending (the guard matched one
    row).  Then a read at `db2` — the instant of the write — answers exactly what the coroutine had read. -/
theorem read_stable_while_pending (d : Dialect) {db1 db2 : Db} (hm : PromMono db1 db2) (hk2 : PromIds db2) {x : PromiseRow}
    (hx : x ∈ db1.promises) (hpend : ∃ y ∈ db2.promises, y.id = x.id ∧ y.state = 1) :
    db2.exec (defs d) (.readPromise { id := x.id }) = .ok (db2, .promises [promiseSelect_proj x]) := by
  obtain ⟨y, hy, hyid, hyst⟩ := hpend
  obtain rfl : y = x := pending_row_unchanged hm hk2 hx hy hyid hyst
  exact read_finds d db2 hk2 y hy

/-- a create that reports a row found no promise with its id -/
theorem created_absent (d : Dialect) (db db' : Db) (c : CreatePromiseCmd) (n : Nat) (hn : n ≠ 0)
    (hw : db.exec (defs d) (.createPromise c) = .ok (db', .rows n)) : ∀ r ∈ db.promises, r.id ≠ c.id := by
  intro r hr he
  -- `Db.exec` of a create is `.ok (db.createPromise g c)` with the count as `rows`: `n` is that count, 0 over a stored id
  cases hw
  exact hn (congrArg Prod.snd (Db.createPromise_present _ db c ⟨r, hr, he⟩))

/-- … and the earlier read that found nothing was truthful about every earlier database: a promise never disappears -/
theorem absent_now_absent_before {db1 db2 : Db} (hm : PromMono db1 db2) (id : String) (h2 : ∀ r ∈ db2.promises, r.id ≠ id) :
    ∀ r ∈ db1.promises, r.id ≠ id := fun r hr he =>
  let ⟨p, hp, hid⟩ := promMono_has hm ⟨r, hr, he⟩
  h2 p hp hid

end Resonate
