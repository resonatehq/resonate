/-
  Proofs/KeysInv.lean — the key invariants the coroutines' assertions rely on (`Keys`, Proofs/NoPanic.lean)
  hold in every database the store can reach by commands of the shape the coroutines emit.

  `KeysX db` = `Keys db` + "no registration carries an invocation-shaped id" (registrations become tasks with the
  same id, and an invocation task must have its promise).  `cmdKOk` is the (syntactic) condition on one command:
  no bare `CreateTask`; a `CreateCallback` id is not of the form `__invoke:…`; the task of a
  `CreatePromiseAndTask` is the invocation task of that very promise.  Every command any coroutine yields
  satisfies it (Proofs/Walk.lean), and every successful command that satisfies it preserves `KeysX`.
-/
import Resonate.Proofs.NoPanic
import Resonate.Proofs.TxShape
import Resonate.Properties.C09
namespace Resonate
open Coro SqlSpec

structure KeysX (db : Db) : Prop where
  keys : Keys db
  cbs : ∀ cb ∈ db.callbacks, NotInvoke cb.id

/-- however `CreatePromiseAndTask` ends, afterwards its promise exists -/
theorem createPromiseAndTask_promise (d : Dialect) {db db' : Db} {c : CreatePromiseAndTaskCmd} {r : Res}
    (h : db.exec (defs d) (.createPromiseAndTask c) = .ok (db', r)) : ∃ p ∈ db'.promises, p.id = c.promiseCommand.id := by
  rw [(createPromiseAndTask_promises h).1]
  by_cases hp : ∃ p ∈ db.promises, p.id = c.promiseCommand.id
  · rw [Db.createPromise_present _ db _ hp]; exact hp
  · rw [Db.createPromise_absent _ db _ fun p hm he => hp ⟨p, hm, he⟩]
    exact ⟨_, List.mem_append_right _ (List.mem_singleton_self _), rfl⟩

theorem keysX_exec (d : Dialect) (db db' : Db) (cmd : Cmd) (r : Res) (hk : KeysX db) (hc : cmdKOk cmd)
    (h : db.exec (defs d) cmd = .ok (db', r)) : KeysX db' := by
  obtain ⟨⟨kp, ks, kl, kt, kst, kinv⟩, kcb⟩ := hk
  -- promise ids persist (`PromMono`), so an invocation task that had its promise still has it
  have old : ∀ t ∈ db.tasks, ∀ id, t.id = invokeId id → ∃ p ∈ db'.promises, p.id = id := fun t ht id hid =>
    promMono_has (promMono_exec d db db' cmd r h) (kinv t ht id hid)
  have upd : ∀ (p : TaskRow → Bool) (f : TaskRow → TaskRow), db'.tasks = updateWhere p f db.tasks → (∀ x, (f x).id = x.id) →
      List.Pairwise (fun a b : TaskRow => a.id ≠ b.id) db'.tasks ∧
      ∀ t ∈ db'.tasks, ∀ id, t.id = invokeId id → ∃ p ∈ db'.promises, p.id = id := fun p f ht hf =>
    ⟨ht ▸ pairwise_updateWhere TaskRow.id _ _ _ hf kt,
      ht ▸ forall_mem_updateWhere _ _ _ (fun x hx _ id hid => hx id ((hf x).symm.trans hid)) old⟩
  have tasks : List.Pairwise (fun a b : TaskRow => a.id ≠ b.id) db'.tasks ∧
      ∀ t ∈ db'.tasks, ∀ id, t.id = invokeId id → ∃ p ∈ db'.promises, p.id = id := by
    cases exec_tasks h with
    | same ht => rw [ht]; exact ⟨kt, old⟩
    | insert c hcmd _ hnew ht =>
      rw [ht]
      refine ⟨pairwise_snoc TaskRow.id _ _ kt hnew, fun t hm id hid => ?_⟩
      rcases List.mem_append.mp hm with hm | hm
      · exact old t hm id hid
      · -- the new task: never a bare `CreateTask`; in `CreatePromiseAndTask` it is the invocation of that very promise
        rcases hcmd with rfl | ⟨pc, rfl⟩
        · exact hc.elim
        · have : id = pc.id := invokeId_inj (by rw [← hid, List.mem_singleton.mp hm]; exact hc)
          exact this ▸ createPromiseAndTask_promise d h
    | insertAll c s n ht =>
      obtain ⟨_, rows, hts, hf, hfresh, hpw⟩ := insertTasksFrom_ok ht
      rw [hts]
      refine ⟨List.pairwise_append.mpr ⟨kt, hpw, fun a ha b hb => hfresh b hb a ha⟩, fun t hm id hid => ?_⟩
      rcases List.mem_append.mp hm with hm | hm
      · exact old t hm id hid
      · -- a task made from a registration carries the registration's id, which is not invocation-shaped
        obtain ⟨cb, hcb, k, rfl⟩ := forall2_mem_right hf t hm
        exact absurd hid (kcb cb (List.mem_filter.mp (List.mem_mergeSort.mp hcb)).1 id)
    | complete c ht | update c _ ht | heartbeat c ht => exact upd _ _ ht fun _ => rfl
  refine ⟨⟨promIds_exec d db db' cmd r kp h, ?_, C09.lockUnique_exec d db db' cmd r kl h, tasks.1, ?_, tasks.2⟩, ?_⟩
  · cases exec_schedules h with
    | same hs => rw [hs]; exact ks
    | insert c hnew hs => rw [hs]; exact pairwise_snoc ScheduleRow.id _ _ ks hnew
    | update c hs => rw [hs]; exact pairwise_updateWhere ScheduleRow.id _ _ _ (fun _ => rfl) ks
    | delete c hs => rw [hs]; exact ks.filter _
  · cases exec_promises h with
    | same hp _ => rw [hp]; exact kst
    | insert c _ hp _ => rw [hp]; exact List.forall_mem_append.mpr ⟨kst, List.forall_mem_singleton.mpr (.inl rfl)⟩
    | complete c _ hok hp _ =>
      rw [hp]; exact forall_mem_updateWhere _ _ _ (fun _ _ _ => .inr (promiseStateOk_iff.mp hok)) kst
  · cases exec_callbacks h with
    | same hcb => rw [hcb]; exact kcb
    | insert c hcmd _ hcb => subst hcmd; rw [hcb]; exact List.forall_mem_append.mpr ⟨kcb, List.forall_mem_singleton.mpr hc⟩
    | delete c hcb => rw [hcb]; exact fun cb hm => kcb cb (List.mem_filter.mp hm).1

theorem keysX_execTx (d : Dialect) (tx : List Cmd) (db db' : Db) (rs : List Res) (hk : KeysX db) (hok : KOk tx)
    (h : db.execTx (defs d) tx = .ok (db', rs)) : KeysX db' :=
  execTx_inv_db (fun c hc _ _ _ hk hx => keysX_exec d _ _ c _ hk (hok c hc) hx) hk h

theorem keysX_empty : KeysX ({} : Db) :=
  ⟨⟨by simp [PromIds], by simp, by simp, by simp, by simp, by simp⟩, by simp⟩

end Resonate
