/-
  Proofs/Wf.lean — the shape of the transactions the coroutines yield (the *guarantee* side of the
  rely/guarantee argument, DESIGN §3.4).  `wfTx` is the decidable, executable form the driver evaluates on
  every dispatched transaction; that every transaction any coroutine can ever yield is non-empty, has the block structure
  (`WfC`) and disciplined task updates (`UOk`) is proved in Proofs/Walk.lean, and the
  correspondence harness compares every transaction the real coroutines dispatch with the model's.
-/
import Resonate.Proofs.Lift
import Resonate.Proofs.StoreBasics
namespace Resonate

def taskStateActive (s : Nat) : Bool := s == 1 || s == 2 || s == 4

/-- an `UpdateTask` as the coroutines build it: guarded on live states only; either the counter is
    bumped by one (lease expiry → back to init), or it is kept and the task does not move backwards:
    it finishes (8/16), or it is (re)dispatched / claimed from an unclaimed state (4 ∉ guard). -/
def wfUpdateTask (c : UpdateTaskCmd) : Bool :=
  !c.currentStates.isEmpty && c.currentStates.all taskStateActive &&
  ((c.counter == c.currentCounter + 1 && c.state == 1) ||
   (c.counter == c.currentCounter &&
     (c.state == 8 || c.state == 16 || ((c.state == 1 || c.state == 2 || c.state == 4) && !c.currentStates.contains 4))))

def wfPromiseAndTask (c : CreatePromiseAndTaskCmd) : Bool :=
  c.taskCommand.mesg.root == c.promiseCommand.id &&
  (c.taskCommand.state == 1 || (c.taskCommand.state == 4 && c.taskCommand.processId.isSome))

/-- well-formed command list: `UpdatePromise id` only as the head of the completion block
    `[UpdatePromise id, CompleteTasks id, CreateTasks id, DeleteCallbacks id]`; the three followers and
    a bare `CreateTask` never on their own. -/
def wfCmdsP (pU : UpdateTaskCmd → Bool) : List Cmd → Bool
  | [] => true
  | .updatePromise c :: .completeTasks ct :: .createTasks cr :: .deleteCallbacks dc :: rest =>
      promiseStateOk c.state && ct.rootPromiseId == c.id && cr.promiseId == c.id && dc.promiseId == c.id && wfCmdsP pU rest
  | .updatePromise _ :: _ => false
  | .completeTasks _ :: _ => false
  | .createTasks _ :: _ => false
  | .deleteCallbacks _ :: _ => false
  | .createTask _ :: _ => false
  | .updateTask c :: rest => pU c && wfCmdsP pU rest
  | .createPromiseAndTask c :: rest => wfPromiseAndTask c && wfCmdsP pU rest
  | _ :: rest => wfCmdsP pU rest

/-- full well-formedness (block structure + disciplined task updates) -/
abbrev wfCmds : List Cmd → Bool := wfCmdsP wfUpdateTask
/-- block structure only (what the promise / callback invariants need) -/
abbrev wfCore : List Cmd → Bool := wfCmdsP (fun _ => true)

def wfTx (tx : List Cmd) : Bool := !tx.isEmpty && wfCmds tx

/-- command kinds that may appear anywhere in a well-formed transaction -/
def Cmd.free : Cmd → Bool
  | .updatePromise _ | .completeTasks _ | .createTasks _ | .deleteCallbacks _ | .createTask _
  | .updateTask _ | .createPromiseAndTask _ => false
  | _ => true

theorem wfCmdsP_free {pU : UpdateTaskCmd → Bool} {c : Cmd} (cs : List Cmd) (h : c.free = true) :
    wfCmdsP pU (c :: cs) = wfCmdsP pU cs := by
  cases c <;> first | rfl | cases h

theorem wfCmdsP_updatePromise {pU : UpdateTaskCmd → Bool} {c : UpdatePromiseCmd} {cs : List Cmd}
    (h : wfCmdsP pU (.updatePromise c :: cs) = true) :
    ∃ t1 t2 rest, cs = .completeTasks ⟨c.id, t1⟩ :: .createTasks ⟨c.id, t2⟩ :: .deleteCallbacks ⟨c.id⟩ :: rest ∧
      promiseStateOk c.state = true ∧ wfCmdsP pU rest = true := by
  by_cases hcs : ∃ ct cr dc rest, cs = .completeTasks ct :: .createTasks cr :: .deleteCallbacks dc :: rest
  · obtain ⟨⟨_, t1⟩, ⟨_, t2⟩, ⟨_⟩, rest, rfl⟩ := hcs
    simp only [wfCmdsP, Bool.and_eq_true, beq_iff_eq] at h
    obtain ⟨⟨⟨⟨hs, rfl⟩, rfl⟩, rfl⟩, hr⟩ := h
    exact ⟨t1, t2, rest, rfl, hs, hr⟩
  · -- `eq_3`: `wfCmdsP pU (.updatePromise _ :: tail) = false` when `tail` does not start with the three followers
    rw [wfCmdsP.eq_3 _ _ _ fun ct cr dc rest e => hcs ⟨ct, cr, dc, rest, e⟩] at h
    cases h

/-- **Well-formed = a sequence of blocks**: the completion block as a unit, a `pU`-`UpdateTask`, a well-formed
    `CreatePromiseAndTask`, a free command.  `wfCmdsP` is the executable form (`wfBlocks_iff`); proofs go by
    induction over this one. -/
inductive WfBlocks (pU : UpdateTaskCmd → Bool) : List Cmd → Prop
  | nil : WfBlocks pU []
  | block (c : UpdatePromiseCmd) (t1 t2 : Int) {rest} : promiseStateOk c.state = true → WfBlocks pU rest →
      WfBlocks pU (.updatePromise c :: .completeTasks ⟨c.id, t1⟩ :: .createTasks ⟨c.id, t2⟩ :: .deleteCallbacks ⟨c.id⟩ :: rest)
  | upd (c : UpdateTaskCmd) {rest} : pU c = true → WfBlocks pU rest → WfBlocks pU (.updateTask c :: rest)
  | pat (c : CreatePromiseAndTaskCmd) {rest} : wfPromiseAndTask c = true → WfBlocks pU rest →
      WfBlocks pU (.createPromiseAndTask c :: rest)
  | free (c : Cmd) {rest} : c.free = true → WfBlocks pU rest → WfBlocks pU (c :: rest)

theorem WfBlocks.of_wfCmdsP {pU : UpdateTaskCmd → Bool} : ∀ cs, wfCmdsP pU cs = true → WfBlocks pU cs
  | [], _ => .nil
  | c :: cs, h => by
    by_cases hf : c.free = true
    · exact .free c hf (of_wfCmdsP cs (wfCmdsP_free cs hf ▸ h))
    · cases c with
      | updatePromise c =>
        obtain ⟨t1, t2, rest, rfl, hs, hr⟩ := wfCmdsP_updatePromise h
        exact .block c t1 t2 hs (of_wfCmdsP rest hr)
      | updateTask c =>
        simp only [wfCmdsP, Bool.and_eq_true] at h
        exact .upd c h.1 (of_wfCmdsP cs h.2)
      | createPromiseAndTask c =>
        simp only [wfCmdsP, Bool.and_eq_true] at h
        exact .pat c h.1 (of_wfCmdsP cs h.2)
      | completeTasks _ | createTasks _ | deleteCallbacks _ | createTask _ => cases h
      | _ => exact absurd rfl hf
termination_by cs => cs.length
decreasing_by all_goals (subst_vars; simp +arith)

theorem wfBlocks_iff {pU : UpdateTaskCmd → Bool} {cs : List Cmd} : wfCmdsP pU cs = true ↔ WfBlocks pU cs := by
  refine ⟨WfBlocks.of_wfCmdsP cs, fun h => ?_⟩
  induction h with
  | nil => rfl
  | block c t1 t2 hs _ ih => simp [wfCmdsP, hs, ih]
  | upd c hc _ ih | pat c hc _ ih => simp [wfCmdsP, hc, ih]
  | free c hf _ ih => rw [wfCmdsP_free _ hf]; exact ih

theorem wfCmdsP_mono {pU pV : UpdateTaskCmd → Bool} {cs : List Cmd} (h : wfCmdsP pU cs = true)
    (hp : ∀ c, pU c = true → pV c = true) : wfCmdsP pV cs = true := by
  rw [wfBlocks_iff] at *
  induction h with
  | nil => exact .nil
  | block c t1 t2 hs _ ih => exact .block c t1 t2 hs ih
  | upd c hc _ ih => exact .upd c (hp c hc) ih
  | pat c hc _ ih => exact .pat c hc ih
  | free c hf _ ih => exact .free c hf ih

theorem wfCmdsP_updateTask_mem {pU : UpdateTaskCmd → Bool} {cs : List Cmd} (h : wfCmdsP pU cs = true)
    {c : UpdateTaskCmd} (hc : .updateTask c ∈ cs) : pU c = true := by
  replace h := wfBlocks_iff.mp h
  induction h with
  | nil => cases hc
  | block _ _ _ _ _ ih | pat _ _ _ ih => exact ih (by simpa using hc)
  | upd u hu _ ih =>
    rcases List.mem_cons.mp hc with hc | hc
    · cases hc; exact hu
    · exact ih hc
  | free x hf _ ih =>
    rcases List.mem_cons.mp hc with hc | hc
    · subst hc; cases hf
    · exact ih hc

theorem wfCore_of_wfCmds : ∀ cs, wfCmds cs = true → wfCore cs = true :=
  fun _ h => wfCmdsP_mono h fun _ _ => rfl

/-- **Schema.**  An invariant `I` is preserved by every well-formed transaction as soon as it is
    preserved (a) by the completion block as a unit, (b) by a well-formed `UpdateTask`, (c) by a
    well-formed `CreatePromiseAndTask`, (d) by every free command. -/
theorem wfCmdsP_inv (pU : UpdateTaskCmd → Bool) (g : SqlDefs) (I : Db → Prop)
    (hblock : ∀ db db' (c : UpdatePromiseCmd) (t1 t2 : Int) (rs : List Res), I db → promiseStateOk c.state = true →
        db.execTx g [.updatePromise c, .completeTasks ⟨c.id, t1⟩, .createTasks ⟨c.id, t2⟩, .deleteCallbacks ⟨c.id⟩] = .ok (db', rs) → I db')
    (hupd : ∀ db db' (c : UpdateTaskCmd) r, I db → pU c = true → db.exec g (.updateTask c) = .ok (db', r) → I db')
    (hpt : ∀ db db' (c : CreatePromiseAndTaskCmd) r, I db → wfPromiseAndTask c = true → db.exec g (.createPromiseAndTask c) = .ok (db', r) → I db')
    (hfree : ∀ db db' (c : Cmd) r, I db → c.free = true → db.exec g c = .ok (db', r) → I db')
    (cs : List Cmd) (db db' : Db) (rs : List Res) (hi : I db) (hw : wfCmdsP pU cs = true) (h : db.execTx g cs = .ok (db', rs)) : I db' := by
  replace hw := wfBlocks_iff.mp hw
  induction hw generalizing db rs with
  | nil => rw [(execTx_nil_ok.mp h).1]; exact hi
  | block c t1 t2 hs _ ih =>
    obtain ⟨db1, rs1, rs2, h1, h2, _⟩ := (execTx_append_ok (as := [_, _, _, _])).mp h
    exact ih db1 rs2 (hblock db db1 c t1 t2 rs1 hi hs h1) h2
  | upd c hc _ ih =>
    obtain ⟨db1, r, rs', h1, h2, _⟩ := execTx_cons_ok.mp h
    exact ih db1 rs' (hupd db db1 c r hi hc h1) h2
  | pat c hc _ ih =>
    obtain ⟨db1, r, rs', h1, h2, _⟩ := execTx_cons_ok.mp h
    exact ih db1 rs' (hpt db db1 c r hi hc h1) h2
  | free c hf _ ih =>
    obtain ⟨db1, r, rs', h1, h2, _⟩ := execTx_cons_ok.mp h
    exact ih db1 rs' (hfree db db1 c r hi hf h1) h2

end Resonate
