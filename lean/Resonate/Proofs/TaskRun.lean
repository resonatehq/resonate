/-
  Proofs/TaskRun.lean — the task discipline of C07 in EVERY reachable state (Proofs/TaskInv.lean proves it per well-formed
  transaction; this file lifts it to the kernel model through Proofs/WInv.lean).

  Invariant carried along every run: every stored task has a state the store writes (`LegalTasks`), and the task table
  has only moved forward since the start (`TaskMono`: tasks never disappear, counters never decrease, a finished task
  never changes, a claimed task changes holder only through a counter bump).  The lease sweep is the one coroutine whose
  update is disciplined only because of what it READ (it guards by the state it read), so completions are tracked as
  well (`LegalCpl`: every task row in a store result has a legal state).
-/
import Resonate.Proofs.TaskInv
import Resonate.Proofs.WInv
import Resonate.Proofs.Walk
import Resonate.Proofs.SysDb
import Resonate.Properties.C08
namespace Resonate
open SqlSpec WInv

def LegalTasks (db : Db) : Prop := ∀ r ∈ db.tasks, legalTask r.state = true

/-- every disjunct of `wfUpdateTask` names the state it writes -/
theorem legal_of_wfUpdate (c : UpdateTaskCmd) (h : wfUpdateTask c = true) : legalTask c.state = true := by
  simp only [wfUpdateTask, legalTask, Bool.and_eq_true, Bool.or_eq_true, beq_iff_eq] at h ⊢
  omega

variable (d : Dialect)

/-- one command of the shape the coroutines emit, on a database with legal task states: the states stay legal and every
    task row it returns has a legal state -/
theorem exec_legal (db db' : Db) (c : Cmd) (r : Res) (hl : LegalTasks db) (hc : cmdUOk c)
    (h : db.exec (defs d) c = .ok (db', r)) : LegalTasks db' ∧ LegalRes r := by
  refine ⟨?_, ?_⟩
  · -- the table: each kind of write puts a legal state
    intro x hx
    have app : ∀ (l : List TaskRow), (∀ y ∈ l, legalTask y.state = true) → x ∈ db.tasks ++ l → legalTask x.state = true :=
      fun l hnew hm => (List.mem_append.mp hm).elim (hl x) (hnew x)
    cases exec_tasks h with
    | same ht => exact hl x (ht ▸ hx)
    | insert c' _ hst _ ht =>
      refine app _ (fun y hy => ?_) (ht ▸ hx)
      rw [List.mem_singleton.mp hy]
      rcases hst with hs | hs <;> simp [defs, taskInsert_row, legalTask, hs]
    | insertAll c' s n ht =>
      obtain ⟨_, rows, hts, hf, _⟩ := insertTasksFrom_ok ht
      refine app rows (fun y hy => ?_) (hts ▸ hx)
      -- a new row is `taskInsertAll_row …`: state init
      obtain ⟨_, _, k, rfl⟩ := forall2_mem_right hf y hy
      simp [defs, taskInsertAll_row, legalTask]
    | complete c' ht =>
      exact forall_mem_updateWhere _ _ _ (by intro r _ _; simp [defs, taskCompleteByRootId_set, legalTask]) hl x (ht ▸ hx)
    | update c' hcmd ht =>
      have hs := legal_of_wfUpdate c' (by subst hcmd; exact hc)
      exact forall_mem_updateWhere _ _ _ (by intro r _ _; simpa [defs, taskUpdate_set] using hs) hl x (ht ▸ hx)
    | heartbeat c' ht =>
      exact forall_mem_updateWhere _ _ _ (by intro r hr _; simpa [defs, taskHeartbeat_set] using hr) hl x (ht ▸ hx)
  · -- the result: only the three task reads return task rows, each the projection of a stored row
    rw [exec_res h]
    have sel : ∀ {l : List TaskRow} {p : TaskRow → Bool} {f : TaskRow → TaskRow}, (∀ y, (f y).state = y.state) →
        (∀ y ∈ l, y ∈ db.tasks.filter p) → ∀ x ∈ l.map f, legalTask x.state = true := by
      intro l p f hf hsel x hx
      obtain ⟨y, hy, _, rfl⟩ := mem_select hsel hx
      rw [hf]; exact hl y hy
    cases c with
    | readTask c => exact sel (fun _ => rfl) fun y hy => List.mem_of_mem_take hy
    | readTasks c => exact sel (fun _ => rfl) fun y hy => List.mem_mergeSort.mp (mem_takeLimit _ _ _ hy)
    | readEnqueueableTasks c =>
      exact sel (fun _ => rfl) fun y hy =>
        List.mem_mergeSort.mp ((C08.firstPerRoot_sublist _).subset (mem_takeLimit _ _ _ hy))
    | createPromiseAndTask c => simp only [Db.resOf]; split <;> exact trivial
    | _ => exact trivial

theorem execTx_legal (cs : List Cmd) (db db' : Db) (rs : List Res) (hl : LegalTasks db) (hu : UOk cs)
    (h : db.execTx (defs d) cs = .ok (db', rs)) : LegalTasks db' ∧ ∀ r ∈ rs, LegalRes r :=
  execTx_inv (fun c hc _ _ _ hl hx => exec_legal d _ _ c _ hl (hu c hc) hx) hl h

/-- `WT`: the shape of every transaction the coroutines yield (block structure + disciplined task updates);
    `TI db0`: the invariant carried along every run from `db0` (legal task states, and `TaskMono` since `db0`) -/
def WT (tx : List Cmd) : Prop := WfC tx ∧ UOk tx
def TI (db0 db : Db) : Prop := LegalTasks db ∧ TaskMono db0 db

theorem ti_step (db0 db db' : Db) (tx : List Cmd) (rs : List Res) (hi : TI db0 db) (hw : WT tx)
    (h : db.execTx (defs d) tx = .ok (db', rs)) : TI db0 db' ∧ LegalCpl (.store rs) := by
  have hl := execTx_legal d tx db db' rs hi.1 hw.2 h
  exact ⟨⟨hl.1, hi.2.trans (taskMono_execTx d tx db db' rs (fun _ hc => hw.2 _ hc) h)⟩, hl.2⟩

theorem wt_bg (env : Env) (k : BgKind) (t : Time) : AllYieldsL WT LegalCpl (k.body env t) :=
  (tree_bg (valid := True) (legal := True) env k t fun _ _ h => h).allYieldsL fun _ hs tx hm => ⟨(hs tx hm).wfC trivial, (hs tx hm).uOk trivial⟩

theorem wt_req (env : Env) (r : Req) (t0 t : Time) (h : r.StateOk) : AllYieldsL WT LegalCpl (r.body env t0 t) :=
  (tree_req (legal := True) env r t0 t).allYieldsL fun _ hs tx hm => ⟨(hs tx hm).wfC h, (hs tx hm).uOk trivial⟩

/-- from ANY state whose database has legal task states and whose coroutines, pending transactions and queued completions
    are disciplined: along any run the states stay legal and the task table only moves forward from where it stood -/
theorem task_discipline_run (s : Sys) (hg : s.g = defs d) (hs : WInv.SysInv WT LegalCpl LegalTasks s) (cs : List Choice)
    (hcs : ∀ c ∈ cs, ChoiceOk LegalCpl c) : WInv.SysInv WT LegalCpl (TI s.db) (s.run cs) :=
  WInv.sysInv_run (TI s.db) (by trivial) wt_bg wt_req cs s ⟨⟨hs.db, TaskMono.refl _⟩, hs.pending, hs.threads, hs.apiQ, hs.cq⟩ hcs
    fun db db' tx rs hi hw hx => ti_step d s.db db db' tx rs hi hw (hg ▸ hx)

/-- **every reachable state**: from a server booted over a database with legal task states, along ANY run in which
    submitted requests passed the front ends' state validation (router / sender completions are always legal: they
    carry no task rows), the task table has legal states and has only moved forward since the start -/
theorem task_discipline_every_run (env : Env) (db0 : Db) (h0 : LegalTasks db0) (cs : List Choice)
    (hcs : ∀ c ∈ cs, ChoiceOk LegalCpl c) :
    WInv.SysInv WT LegalCpl (TI db0) ((Sys.boot env d (defs d) db0).run cs) :=
  task_discipline_run d _ rfl (WInv.sysInv_boot LegalTasks env d (defs d) db0 h0) cs hcs

/-- … and between ANY two states along the run -/
theorem task_discipline_between (env : Env) (db0 : Db) (h0 : LegalTasks db0) (cs1 cs2 : List Choice)
    (h1 : ∀ c ∈ cs1, ChoiceOk LegalCpl c) (h2 : ∀ c ∈ cs2, ChoiceOk LegalCpl c) :
    TaskMono ((Sys.boot env d (defs d) db0).run cs1).db ((Sys.boot env d (defs d) db0).run (cs1 ++ cs2)).db := by
  have hs1 := task_discipline_every_run d env db0 h0 cs1 h1
  rw [run_append]
  exact (task_discipline_run d _ (run_g ..) ⟨hs1.db.1, hs1.pending, hs1.threads, hs1.apiQ, hs1.cq⟩ cs2 h2).db.2

end Resonate
