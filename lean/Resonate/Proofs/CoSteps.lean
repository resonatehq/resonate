/-
  Proofs/CoSteps.lean — steps of coroutines said once: what the continuation after a single-command write accepts
  (`rowsK`), how a decision ladder is descended (`next_ite_neg`), the router and store steps of the `createPromise` child
  (`createPromiseChild_next`, `_routed`, `childStore_inv`), and `createPromiseInner` on an existing promise for both
  request kinds (`createPromiseInner_existing`, `_overdue`).  The decision and acknowledgement theorems of C03, C04, C06,
  the creation theorems of C02, the router outcomes of C08 and the keyed-write step of Proofs/NoPanic.lean are instances.

  How a step is reached, here and in the property files: `change` states the branch conditions and leaves the branches
  as `_` (definitional unfolding, so nothing of the remaining tree is traversed or restated), then the conditions are
  rewritten.  `simp` or `split` on an unfolded coroutine go through the whole tree at every branch point.
-/
import Resonate.Proofs.CoBasics
namespace Resonate.Coro

/-- the shape of every continuation that follows a single-command write (acquireLock, createSchedule,
    registerCallback, claimTask, completeTask, …): a store error, a panic on more than one row or on a malformed
    completion, else `k n` for the `n ≤ 1` rows reported.  The model writes the match out in each coroutine;
    `change rowsK _ _ _ cpls = _ at h` recognises it (definitional unfolding, no text restated). -/
def rowsK (site bad : String) (k : Nat → Co) : List Cpl → Co
  | [.err] => errResp S_AIO_STORE
  | [.store [.rows n]] => if n > 1 then .panic site else k n
  | _ => .panic bad

/-- an outcome `c` of `rowsK` that is neither the error answer, nor a panic, nor what zero rows lead to was reached on `rows 1` -/
theorem rowsK_one {site bad : String} {k : Nat → Co} {cpls : List Cpl} {c : Co} (h : rowsK site bad k cpls = c)
    (he : c ≠ errResp S_AIO_STORE) (hp : ∀ s, c ≠ .panic s) (h0 : k 0 ≠ c) : cpls = [.store [.rows 1]] := by
  unfold rowsK at h
  split at h
  · exact absurd h.symm he
  · rename_i n
    by_cases hn : n > 1
    · rw [if_pos hn] at h; exact absurd h.symm (hp _)
    · rw [if_neg hn] at h
      rcases Nat.le_one_iff_eq_zero_or_eq_one.mp (Nat.le_of_not_gt hn) with rfl | rfl
      · exact absurd h h0
      · rfl
  · exact absurd h.symm (hp _)

/-- a step of `if cond then a else b` whose outcome is not the one `a` leads to took the other branch.  The decision
    ladders of the coroutines end every branch but one (`a = .done …`, and `.next` of an ended coroutine is itself): this
    is how an acknowledgement theorem descends to the guarded write. -/
theorem next_ite_neg {cond : Prop} [Decidable cond] {a b : Co} {t : Time} {cpls : List Cpl} {c : Co}
    (h : (if cond then a else b).next t cpls = c) (ha : a.next t cpls ≠ c) : b.next t cpls = c := by
  by_cases hc : cond
  · rw [if_pos hc] at h
    exact absurd h ha
  · rw [if_neg hc] at h
    exact h

/-- what the continuation of `childStore` lets through: an outcome that is not a panic is `k`'s error answer (on `[.err]`),
    or `k (.ok rs ft)` on `[.store rs]` with one result per command, the first reporting `n ≤ 1` created promises and, for a
    create with task, as many tasks -/
theorem childStore_inv {pc : CreatePromiseCmd} {ft : Option CreateTaskCmd} {extra : List Cmd} {k : ChildOut → Co} {t : Time}
    {cpls : List Cpl} {c : Co} (h : (childStore pc ft extra k).next t cpls = c) (hp : ∀ s, c ≠ .panic s) :
    c = k (.error S_AIO_STORE) ∨ ∃ rs, cpls = [.store rs] ∧ rs.length = extra.length + 1 ∧
      (∃ n, n ≤ 1 ∧ (rs.head? = some (.rows n) ∨ rs.head? = some (.rows2 n n))) ∧ c = k (.ok rs ft) := by
  simp only [childStore, Co.next] at h
  split at h
  · -- `[.err]`
    exact .inl h.symm
  · -- `[.store rs]`: the length check, then the shape of the first result
    rename_i rs
    by_cases hl : (rs.length != extra.length + 1) = true
    · rw [if_pos hl] at h; exact absurd h.symm (hp _)
    rw [if_neg hl] at h
    refine .inr ⟨rs, rfl, by simpa using hl, ?_⟩
    split at h
    · -- `rows2 np nt`: at most one promise, and as many tasks
      rename_i np nt hh
      by_cases h1 : np > 1
      · rw [if_pos h1] at h; exact absurd h.symm (hp _)
      rw [if_neg h1] at h
      by_cases h2 : (nt != np) = true
      · rw [if_pos h2] at h; exact absurd h.symm (hp _)
      rw [if_neg h2] at h
      have : nt = np := by simpa using h2
      subst this
      exact ⟨⟨nt, by omega, .inr hh⟩, h.symm⟩
    · -- `rows n`: at most one promise
      rename_i n hh
      by_cases h1 : n > 1
      · rw [if_pos h1] at h; exact absurd h.symm (hp _)
      rw [if_neg h1] at h
      exact ⟨⟨n, by omega, .inl hh⟩, h.symm⟩
    · -- any other first result: panic
      exact absurd h.symm (hp _)
  · -- any other completion: panic
    exact absurd h.symm (hp _)

theorem createPromiseChild_next (pc : CreatePromiseCmd) (tc : Option CreateTaskCmd) (extra : List Cmd) (k : ChildOut → Co)
    (t : Time) (rc : Cpl) :
    (∃ code, (createPromiseChild pc tc extra k).next t [rc] = k (.error code)) ∨
    (createPromiseChild pc tc extra k).next t [rc] = childStore pc (childTask pc tc (routeOf rc)) extra k := by
  simp only [createPromiseChild, Co.next]
  by_cases h1 : routeFailed rc = true
  · rw [if_pos h1]; exact .inl ⟨_, rfl⟩
  rw [if_neg h1]
  by_cases h2 : (tc.isSome && (routeOf rc).isNone) = true
  · rw [if_pos h2]; exact .inl ⟨_, rfl⟩
  rw [if_neg h2]; exact .inr rfl

theorem createPromiseChild_routed (pc : CreatePromiseCmd) (tc : Option CreateTaskCmd) (extra : List Cmd) (k : ChildOut → Co)
    (t : Time) {rc : Cpl} (h1 : routeFailed rc = false) (h2 : (tc.isSome && (routeOf rc).isNone) = false) :
    (createPromiseChild pc tc extra k).next t [rc] = childStore pc (childTask pc tc (routeOf rc)) extra k := by
  simp only [createPromiseChild, Co.next, h1, h2, Bool.false_eq_true, if_false]

/-! ### `createPromiseInner` on an existing promise, for both request kinds -/

/-- the lazy time-out test of every read path, decided from the row -/
theorem overdue_eq (r : PromiseRow) (t : Time) :
    (r.toPromise.state == P_PENDING && decide (r.toPromise.timeout ≤ t)) = decide (r.state = 1 ∧ r.timeout ≤ t) := by
  rw [Bool.decide_and, ← Bool.beq_eq_decide_eq]; rfl

/-- how `createPromiseInner` answers, by request kind (its local `respond`) -/
def respondAs (wt : Bool) (status : Nat) (p : Option Promise) (tk : Option Task) : Co :=
  if wt then .done (some (.promiseTask status p tk)) else .done (some (.promise status p))

/-- the promise exists and is not overdue: nothing is written -/
theorem createPromiseInner_existing (req : CreatePromiseReq) (tc : Option CreateTaskCmd) (wt : Bool) (t0 t : Time) (r : PromiseRow)
    (hn : ¬ (r.state = 1 ∧ r.timeout ≤ t)) :
    (createPromiseInner req tc wt t0).next t (gotRow r) =
      respondAs wt (if !(req.strict && r.state != 1) && keyMatch r.idempotencyKeyForCreate req.idempotencyKey then S_OK else S_PROMISE_ALREADY_EXISTS)
        (some r.toPromise) none := by
  change (if (r.toPromise.state == P_PENDING && decide (r.toPromise.timeout ≤ t)) = true then _ else if (_ : Bool) = true then _ else _) = _
  rw [overdue_eq, decide_eq_false hn, if_neg Bool.false_ne_true]
  -- left: the model's `if strict / key mismatch then respond … else respond …`, its local `respond` being `respondAs wt` by
  -- unfolding; right: `respondAs wt (if … then … else …)`
  exact (apply_ite (respondAs wt · (some r.toPromise) none) ..).symm

/-- the promise exists, is pending and overdue: the only write is the time-out block, and the answer after it -/
theorem createPromiseInner_overdue (req : CreatePromiseReq) (tc : Option CreateTaskCmd) (wt : Bool) (t0 t : Time) (r : PromiseRow)
    (hs : r.state = 1) (ht : r.timeout ≤ t) :
    ∃ k, (createPromiseInner req tc wt t0).next t (gotRow r) = .yield [.store (completeTx (timeoutCmd req.id r.toPromise) t)] k ∧
      ∀ t2 n c, k t2 (blockDone 1 n c) = respondAs wt
        (if !req.strict && keyMatch r.idempotencyKeyForCreate req.idempotencyKey then S_OK else S_PROMISE_ALREADY_EXISTS)
        (some (withCompleted r.toPromise (timeoutCmd req.id r.toPromise))) none := by
  change ∃ k, (if (r.toPromise.state == P_PENDING && decide (r.toPromise.timeout ≤ t)) = true then _ else _) = _ ∧ _
  rw [overdue_eq, decide_eq_true ⟨hs, ht⟩, if_pos rfl]
  exact ⟨_, rfl, fun t2 n c => by simp [blockDone, completeOut]; rfl⟩

end Resonate.Coro
