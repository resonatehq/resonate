/-
  Proofs/StoreBasics.lean — lemmas about the store model's list combinators (`updateWhere`, `countP`, `takeLimit`,
  `Db.createPromise`, `Db.createTask`), the inversions of a guarded and of a conditional command, and `ListLe R`, the order on
  tables that `PromListLe` and `TaskListLe` both are.
-/
import Resonate.Model.Store
import Resonate.Proofs.ListBasics
namespace Resonate

@[simp] theorem updateWhere_length {α} (p : α → Bool) (f : α → α) (l : List α) :
    (updateWhere p f l).length = l.length := by simp [updateWhere]

theorem countP_le {α} (p : α → Bool) (l : List α) : countP p l ≤ l.length := by
  simp [countP]; exact List.length_filter_le _ _

theorem countP_eq_zero {α} (p : α → Bool) (l : List α) : countP p l = 0 ↔ ∀ x ∈ l, p x = false := by
  simp [countP, List.filter_eq_nil_iff]

theorem countP_pos {α} {p : α → Bool} {l : List α} : 0 < countP p l ↔ ∃ x ∈ l, p x = true := by
  simp [countP, List.length_pos_iff, List.filter_eq_nil_iff]

/-- a guard that fixes the key matches at most one row of a table with unique keys -/
theorem countP_le_one {α κ} (key : α → κ) (p : α → Bool) (k : κ) {l : List α}
    (hu : List.Pairwise (fun a b => key a ≠ key b) l) (hk : ∀ a, p a = true → key a = k) : countP p l ≤ 1 := by
  induction l with
  | nil => simp [countP]
  | cons a l ih =>
    rw [List.pairwise_cons] at hu
    by_cases ha : p a = true
    · have hz : countP p l = 0 := (countP_eq_zero _ _).mpr fun b hb => by
        cases hpb : p b
        · rfl
        · exact absurd ((hk a ha).trans (hk b hpb).symm) (hu.1 b hb)
      simp only [countP, List.filter_cons, ha, if_true, List.length_cons] at hz ⊢
      omega
    · simpa [countP, List.filter_cons, ha] using ih hu.2

/-- `LIMIT 1`: no row, or one row of the list -/
theorem take_one_map {α β} (l : List α) (f : α → β) : l = [] ∨ ∃ a ∈ l, (l.take 1).map f = [f a] := by
  cases l with
  | nil => exact .inl rfl
  | cons a l => exact .inr ⟨a, List.mem_cons_self .., by simp⟩

/-- the rows of a SELECT are projections of stored rows that satisfy the WHERE clause, whatever ordering and limit
    lie between (`hsel`) -/
theorem mem_select {α β} {l sel : List α} {p : α → Bool} {f : α → β} (hsel : ∀ y ∈ sel, y ∈ l.filter p) {x : β}
    (hx : x ∈ sel.map f) : ∃ y ∈ l, p y = true ∧ x = f y := by
  obtain ⟨y, hy, rfl⟩ := List.mem_map.mp hx
  exact ⟨y, (List.mem_filter.mp (hsel y hy)).1, (List.mem_filter.mp (hsel y hy)).2, rfl⟩

theorem updateWhere_of_none {α} (p : α → Bool) (f : α → α) (l : List α) (h : ∀ x ∈ l, p x = false) :
    updateWhere p f l = l :=
  (List.map_congr_left fun x hx => by simp [h x hx]).trans (List.map_id l)

theorem mem_updateWhere {α} (p : α → Bool) (f : α → α) (l : List α) (y : α) :
    y ∈ updateWhere p f l ↔ ∃ x ∈ l, (p x = true ∧ y = f x) ∨ (p x = false ∧ y = x) := by
  simp only [updateWhere, List.mem_map]
  refine exists_congr fun x => and_congr_right fun _ => ?_
  cases p x <;> simp [eq_comm]

/-- the store's test whether a key is taken (`ON CONFLICT`, `NOT EXISTS`), as a statement about the rows -/
theorem any_key {α κ} [BEq κ] [LawfulBEq κ] {key : α → κ} {k : κ} {l : List α} :
    l.any (fun r => key r == k) = true ↔ ∃ r ∈ l, key r = k := by
  simp

theorem not_any_key {α κ} [BEq κ] [LawfulBEq κ] {key : α → κ} {k : κ} {l : List α} :
    ¬ l.any (fun r => key r == k) = true ↔ ∀ r ∈ l, key r ≠ k := by
  simp

/-- INSERT … ON CONFLICT DO NOTHING, decided by whether the id is stored -/
theorem Db.createPromise_present (g : SqlDefs) (db : Db) (c : CreatePromiseCmd) (h : ∃ r ∈ db.promises, r.id = c.id) :
    db.createPromise g c = ({ db with seqP := db.seqP + 1 }, 0) :=
  if_pos (any_key.mpr h)

theorem Db.createPromise_absent (g : SqlDefs) (db : Db) (c : CreatePromiseCmd) (h : ∀ r ∈ db.promises, r.id ≠ c.id) :
    db.createPromise g c = ({ db with promises := db.promises ++ [g.promiseInsert_row c (db.seqP + 1)], seqP := db.seqP + 1 }, 1) :=
  if_neg (not_any_key.mpr h)

/-- `Db.createTask` past its two assertions (the state is init or claimed; a claimed task names its process): the same
    INSERT … ON CONFLICT DO NOTHING, on tasks -/
theorem Db.createTask_valid (g : SqlDefs) (db : Db) {c : CreateTaskCmd} (hst : c.state = 1 ∨ c.state = 4)
    (hpid : c.state = 4 → c.processId.isSome = true) :
    db.createTask g c = if db.tasks.any (fun r => r.id == c.id) then .ok ({ db with seqT := db.seqT + 1 }, 0)
      else .ok ({ db with tasks := db.tasks ++ [g.taskInsert_row c (db.seqT + 1)], seqT := db.seqT + 1 }, 1) := by
  rw [Db.createTask, if_neg (by simpa using hst.resolve_left), if_neg (by simpa [Option.isSome_iff_ne_none] using hpid)]

theorem updated_mem_of_countP_pos {α} {p : α → Bool} (f : α → α) {l : List α} (h : 0 < countP p l) :
    ∃ x ∈ l, p x = true ∧ f x ∈ updateWhere p f l :=
  let ⟨x, hx, hp⟩ := countP_pos.mp h
  ⟨x, hx, hp, (mem_updateWhere ..).mpr ⟨x, hx, .inl ⟨hp, rfl⟩⟩⟩

theorem updateWhere_cons {α} (p : α → Bool) (f : α → α) (a : α) (l : List α) :
    updateWhere p f (a :: l) = (if p a = true then f a else a) :: updateWhere p f l := rfl

theorem countP_cons {α} (q : α → Bool) (a : α) (l : List α) :
    countP q (a :: l) = countP q l + if q a = true then 1 else 0 := by
  simp only [countP, List.filter_cons]; split <;> rfl

/-- counted rows after an UPDATE whose rewritten rows are not counted + rows it hit that were counted = counted rows before -/
theorem countP_updateWhere {α : Type} (q p : α → Bool) (f : α → α) (hq : ∀ a, p a = true → q (f a) = false) (l : List α) :
    countP q (updateWhere p f l) + countP (fun a => p a && q a) l = countP q l := by
  induction l with
  | nil => rfl
  | cons a l ih =>
    rw [updateWhere_cons, countP_cons, countP_cons, countP_cons]
    by_cases hpa : p a = true
    · rw [if_pos hpa, hq a hpa, hpa, Bool.true_and, if_neg Bool.false_ne_true, ← ih, Nat.add_zero, Nat.add_assoc]
    · rw [if_neg hpa, Bool.eq_false_iff.mpr hpa, Bool.false_and, if_neg Bool.false_ne_true, ← ih, Nat.add_zero, Nat.add_right_comm]

/-- an UPDATE that lowers a measure `g` on every row it hits lowers the table's total by at least the number of rows hit -/
theorem sum_updateWhere_le {α : Type} (g : α → Nat) (p : α → Bool) (f : α → α) (hlt : ∀ x, p x = true → g (f x) < g x) (l : List α) :
    ((updateWhere p f l).map g).sum + countP p l ≤ (l.map g).sum := by
  induction l with
  | nil => exact Nat.le_refl _
  | cons a l ih =>
    rw [updateWhere_cons, countP_cons, List.map_cons, List.map_cons, List.sum_cons, List.sum_cons]
    by_cases hpa : p a = true
    · rw [if_pos hpa, if_pos hpa, Nat.add_comm _ 1, Nat.add_add_add_comm]
      exact Nat.add_le_add (hlt a hpa) ih
    · rw [if_neg hpa, if_neg hpa, Nat.add_zero, Nat.add_assoc]
      exact Nat.add_le_add_left ih _

theorem mem_takeLimit {α} (n : Int) (l : List α) (x : α) (h : x ∈ takeLimit n l) : x ∈ l := by
  unfold takeLimit at h
  split at h
  · exact h
  · exact List.mem_of_mem_take h

/-- an UPDATE that leaves the key column alone keeps whatever holds pairwise of the keys (distinct: the unique indexes;
    increasing: `sort_id`) -/
theorem pairwise_updateWhere {α κ} {R : κ → κ → Prop} (key : α → κ) (p : α → Bool) (f : α → α) (l : List α)
    (hf : ∀ r, key (f r) = key r) (h : List.Pairwise (fun a b => R (key a) (key b)) l) :
    List.Pairwise (fun a b => R (key a) (key b)) (updateWhere p f l) := by
  unfold updateWhere
  rw [List.pairwise_map]
  refine h.imp fun {a b} hab => ?_
  have hk : ∀ r, key (if p r = true then f r else r) = key r := fun r => by split <;> simp [hf]
  rw [hk, hk]; exact hab

theorem forall_mem_updateWhere {α} {P : α → Prop} (p : α → Bool) (f : α → α) (l : List α)
    (hf : ∀ r, P r → p r = true → P (f r)) (h : ∀ r ∈ l, P r) : ∀ r ∈ updateWhere p f l, P r := by
  intro r hr
  obtain ⟨x, hx, h1 | h1⟩ := (mem_updateWhere ..).mp hr
  · rw [h1.2]; exact hf x (h x hx) h1.1
  · rw [h1.2]; exact h x hx

/-- a guarded command succeeds only past its guard -/
theorem ite_error_eq_ok {ε α} {p : Prop} [Decidable p] {e : ε} {x : Except ε α} {b : α} :
    (if p then Except.error e else x) = Except.ok b ↔ ¬ p ∧ x = Except.ok b := by
  split <;> simp [*]

/-- a conditional write (`INSERT … ON CONFLICT`, `INSERT … WHERE`) succeeds on either side of its condition -/
theorem ite_ok_eq_ok {ε α} {p : Prop} [Decidable p] {a b c : α} :
    (if p then Except.ok a else Except.ok b : Except ε α) = Except.ok c ↔ p ∧ a = c ∨ ¬ p ∧ b = c := by
  split <;> simp [*]

/-- … and on the error side: past its guard a guarded command does not fail, a conditional write never does -/
theorem ite_error_ne_error {ε α} {p : Prop} [Decidable p] {a : α} {e e' : ε} (h : ¬ p) :
    (if p then Except.error e else Except.ok a) ≠ Except.error e' := by
  rw [if_neg h]; nofun

theorem ite_ok_ne_error {ε α} {p : Prop} [Decidable p] {a b : α} {e : ε} :
    (if p then Except.ok a else Except.ok b : Except ε α) ≠ Except.error e := by
  split <;> nofun

/-! ### a table that only grows, its rows moving along `R` (the shape of `PromListLe` and `TaskListLe`) -/

/-- every row of `l` is still there in `l'`, at the same position, as an `R`-later version -/
def ListLe {α : Type} (R : α → α → Prop) (l l' : List α) : Prop := ∃ l1 l2, l' = l1 ++ l2 ∧ Forall2 R l l1

namespace ListLe
variable {α : Type} {R : α → α → Prop}

theorem append (hr : ∀ a, R a a) (l extra : List α) : ListLe R l (l ++ extra) := ⟨l, extra, rfl, forall2_refl hr l⟩

theorem refl (hr : ∀ a, R a a) (l : List α) : ListLe R l l := by simpa using append hr l []

theorem trans (ht : ∀ a b c, R a b → R b c → R a c) {a b c : List α} (h1 : ListLe R a b) (h2 : ListLe R b c) : ListLe R a c := by
  obtain ⟨b1, b2, rfl, hab⟩ := h1
  obtain ⟨c1, c2, rfl, hbc⟩ := h2
  obtain ⟨m1, m2, rfl, hm1, _⟩ := forall2_split hbc
  exact ⟨m1, m2 ++ c2, by simp, forall2_trans ht hab hm1⟩

theorem update (hr : ∀ a, R a a) (p : α → Bool) (f : α → α) (h : ∀ r, p r = true → R r (f r)) (l : List α) :
    ListLe R l (updateWhere p f l) := by
  refine ⟨updateWhere p f l, [], by simp, ?_⟩
  induction l with
  | nil => exact .nil
  | cons a l ih =>
    refine .cons ?_ ih
    by_cases hp : p a = true
    · simpa [hp] using h a hp
    · simpa [hp] using hr a

theorem get {l l' : List α} (h : ListLe R l l') {i : Nat} {a : α} (ha : l[i]? = some a) : ∃ b, l'[i]? = some b ∧ R a b := by
  obtain ⟨l1, l2, rfl, hf⟩ := h
  obtain ⟨b, hb, hab⟩ := forall2_get hf i a ha
  exact ⟨b, by rw [List.getElem?_append_left (List.getElem?_eq_some_iff.mp hb).1]; exact hb, hab⟩

theorem length_le {l l' : List α} (h : ListLe R l l') : l.length ≤ l'.length := by
  obtain ⟨l1, l2, rfl, hf⟩ := h
  rw [List.length_append, ← forall2_length hf]; omega

end ListLe

end Resonate
