/-
  Proofs/TaskInv.lean — the tasks table under transactions whose task updates are disciplined (`wfUpdateTask`; the block
  structure of a well-formed transaction is not needed: `taskMono_execTx`) (C07):
  `TaskMono`: no task disappears, its identity fields never change, its (counter, phase) rank never
  decreases (phase: unclaimed 0 < claimed 1 < finished 2), and a finished task never changes at all.
-/
import Resonate.Model.SqlSpec
import Resonate.Proofs.Guards
import Resonate.Proofs.Wf
import Resonate.Proofs.Frame
namespace Resonate
open SqlSpec

def taskPhase (s : Nat) : Nat := if s == 8 || s == 16 then 2 else if s == 4 then 1 else 0

/-- lexicographic `(counter, phase)` -/
def rankLe (a b : TaskRow) : Prop := a.counter < b.counter ∨ (a.counter = b.counter ∧ taskPhase a.state ≤ taskPhase b.state)

/-- says nothing of `processId`, `ttl`, `expiresAt`, `attempt`, `completedOn`: a claim, a heartbeat or a hand-off may
    change them (until the task is finished: then the whole row stays) -/
def TaskRowLe (a b : TaskRow) : Prop :=
  a.id = b.id ∧ a.sortId = b.sortId ∧ a.rootPromiseId = b.rootPromiseId ∧ a.recv = b.recv ∧ a.mesg = b.mesg ∧
  a.timeout = b.timeout ∧ a.createdOn = b.createdOn ∧ rankLe a b ∧ (taskPhase a.state = 2 → b = a)

theorem TaskRowLe.refl (a : TaskRow) : TaskRowLe a a := by
  refine ⟨rfl, rfl, rfl, rfl, rfl, rfl, rfl, Or.inr ⟨rfl, Nat.le_refl _⟩, fun _ => rfl⟩

theorem TaskRowLe.rank {a b : TaskRow} (h : TaskRowLe a b) : rankLe a b := h.2.2.2.2.2.2.2.1

theorem TaskRowLe.final {a b : TaskRow} (h : TaskRowLe a b) (hf : taskPhase a.state = 2) : b = a := h.2.2.2.2.2.2.2.2 hf

theorem rankLe_trans {a b c : TaskRow} (h1 : rankLe a b) (h2 : rankLe b c) : rankLe a c := by
  rcases h1 with h1 | ⟨h1, p1⟩ <;> rcases h2 with h2 | ⟨h2, p2⟩
  · left; omega
  · left; omega
  · left; omega
  · right; exact ⟨by omega, Nat.le_trans p1 p2⟩

theorem TaskRowLe.trans {a b c : TaskRow} (h1 : TaskRowLe a b) (h2 : TaskRowLe b c) : TaskRowLe a c := by
  obtain ⟨a1, a2, a3, a4, a5, a6, a7, r1, f1⟩ := h1
  obtain ⟨b1, b2, b3, b4, b5, b6, b7, r2, f2⟩ := h2
  refine ⟨a1.trans b1, a2.trans b2, a3.trans b3, a4.trans b4, a5.trans b5, a6.trans b6, a7.trans b7, rankLe_trans r1 r2, ?_⟩
  intro h
  have hb := f1 h
  subst hb
  exact f2 h

/-- `ListLe TaskRowLe l l'` (Proofs/StoreBasics.lean) written out: `ListLe.refl`, `.trans`, `.update` … apply by unfolding -/
def TaskListLe (l l' : List TaskRow) : Prop := ∃ l1 l2, l' = l1 ++ l2 ∧ Forall2 TaskRowLe l l1
def TaskMono (db db' : Db) : Prop := TaskListLe db.tasks db'.tasks

theorem TaskMono.refl (db : Db) : TaskMono db db := ListLe.refl TaskRowLe.refl _
theorem TaskMono.trans {a b c : Db} (h1 : TaskMono a b) (h2 : TaskMono b c) : TaskMono a c :=
  ListLe.trans (R := TaskRowLe) (fun _ _ _ => TaskRowLe.trans) h1 h2

theorem taskPhase_eq_two {s : Nat} : taskPhase s = 2 ↔ s = 8 ∨ s = 16 := by
  unfold taskPhase
  split
  · rename_i h; simpa using h
  · rename_i h; split <;> simpa using h

theorem maskOf_lt (n : Nat) : ∀ (cs : List Nat) (acc : Nat), acc < 2 ^ n → (∀ s ∈ cs, s < 2 ^ n) → cs.foldl (· ||| ·) acc < 2 ^ n
  | [], _, h, _ => h
  | s :: cs, _, h, hs =>
    maskOf_lt n cs _ (Nat.or_lt_two_pow h (hs s (List.mem_cons_self ..))) fun s' h' => hs s' (List.mem_cons_of_mem _ h')

theorem active_of_all {cs : List Nat} (hall : cs.all taskStateActive = true) {s : Nat} (hs : s ∈ cs) : s = 1 ∨ s = 2 ∨ s = 4 := by
  simpa [taskStateActive, or_assoc] using List.all_eq_true.mp hall s hs

/-- a guard over live states never matches a finished task: the mask is below 8 -/
theorem finished_not_matched (cs : List Nat) (s : Nat) (hall : cs.all taskStateActive = true) (hs : taskPhase s = 2) :
    s &&& maskOf cs = 0 := by
  have hm : maskOf cs < 2 ^ 3 := maskOf_lt 3 cs 0 (by decide) fun s hs => by have := active_of_all hall hs; omega
  have := (by decide : ∀ m : Fin 8, 8 &&& m.val = 0 ∧ 16 &&& m.val = 0) ⟨maskOf cs, hm⟩
  rcases taskPhase_eq_two.mp hs with rfl | rfl <;> simp [this]

/-- … nor, when `claimed` is not among them, a claimed one: the mask is below 4 -/
theorem claimed_not_matched (cs : List Nat) (hall : cs.all taskStateActive = true) (hc : cs.contains 4 = false) :
    4 &&& maskOf cs = 0 := by
  have hm : maskOf cs < 2 ^ 2 := maskOf_lt 2 cs 0 (by decide) fun s hs => by
    have := active_of_all hall hs
    have : s ≠ 4 := fun h4 => by simp [← h4, hs] at hc
    omega
  exact (by decide : ∀ m : Fin 4, 4 &&& m.val = 0) ⟨maskOf cs, hm⟩

theorem taskPhase_le_two (s : Nat) : taskPhase s ≤ 2 := by
  unfold taskPhase
  split
  · exact Nat.le_refl 2
  · split <;> omega

theorem taskPhase_eq_zero (s : Nat) (h2 : taskPhase s ≠ 2) (h4 : s ≠ 4) : taskPhase s = 0 := by
  unfold taskPhase at *
  split
  · rename_i hx; simp [hx] at h2
  · split
    · rename_i hx; exact absurd (by simpa using hx) h4
    · rfl

variable (d : Dialect)

/-- a well-formed `UpdateTask` never moves a task backwards -/
theorem taskRowLe_updateTask (c : UpdateTaskCmd) (hw : wfUpdateTask c = true) (row : TaskRow)
    (hp : taskUpdate_where c row = true) : TaskRowLe row (taskUpdate_set c row) := by
  obtain ⟨hid, hmask, hcnt⟩ := (taskUpdate_where_iff c row).mp hp
  simp only [wfUpdateTask, Bool.and_eq_true, Bool.or_eq_true, Bool.not_eq_true', beq_iff_eq] at hw
  obtain ⟨⟨hne, hall⟩, hshape⟩ := hw
  have hnotfin : taskPhase row.state ≠ 2 := fun hf => hmask (finished_not_matched _ _ hall hf)
  refine ⟨rfl, rfl, rfl, rfl, rfl, rfl, rfl, ?_, fun hf => absurd hf hnotfin⟩
  simp only [taskUpdate_set, rankLe]
  rcases hshape with ⟨hc, _⟩ | ⟨hc, hst⟩
  · left; rw [hc, hcnt]; omega
  · right
    refine ⟨by rw [hc, hcnt], ?_⟩
    rcases hst with (h8 | h16) | ⟨hlive, hno4⟩
    · rw [h8]; exact taskPhase_le_two _
    · rw [h16]; exact taskPhase_le_two _
    · -- the row is not claimed (4 is not in the guard), so its phase is 0
      have hrow4 : row.state ≠ 4 := by
        intro h4; rw [h4] at hmask; exact hmask (claimed_not_matched _ hall hno4)
      have : taskPhase row.state = 0 := taskPhase_eq_zero _ hnotfin hrow4
      rw [this]; exact Nat.zero_le _

theorem taskRowLe_completeTasks (c : CompleteTasksCmd) (row : TaskRow) (hp : taskCompleteByRootId_where c row = true) :
    TaskRowLe row (taskCompleteByRootId_set c row) := by
  simp only [taskCompleteByRootId_where, Bool.and_eq_true, Bool.or_eq_true, beq_iff_eq] at hp
  have hnf : taskPhase row.state ≠ 2 := by
    unfold taskPhase; rcases hp.2 with (h | h) | h <;> simp [h]
  exact ⟨rfl, rfl, rfl, rfl, rfl, rfl, rfl, Or.inr ⟨rfl, taskPhase_le_two _⟩, fun hf => absurd hf hnf⟩

theorem taskRowLe_heartbeat (c : HeartbeatTasksCmd) (row : TaskRow) (hp : taskHeartbeat_where c row = true) :
    TaskRowLe row (taskHeartbeat_set c row) := by
  simp only [taskHeartbeat_where, Bool.and_eq_true, beq_iff_eq] at hp
  have hnf : taskPhase row.state ≠ 2 := by unfold taskPhase; simp [hp.2]
  exact ⟨rfl, rfl, rfl, rfl, rfl, rfl, rfl, Or.inr ⟨rfl, Nat.le_refl _⟩, fun hf => absurd hf hnf⟩

/-- **One command.**  Whatever the command — any of the 27 kinds, anywhere in a transaction — the tasks table only
    moves forward, provided an `UpdateTask` is of the shape the coroutines build. -/
theorem taskMono_exec (db db' : Db) (cmd : Cmd) (r : Res) (hu : ∀ c, cmd = .updateTask c → wfUpdateTask c = true)
    (h : db.exec (defs d) cmd = .ok (db', r)) : TaskMono db db' := by
  unfold TaskMono
  cases exec_tasks h with
  | same ht => rw [ht]; exact ListLe.refl TaskRowLe.refl _
  | insert c _ _ _ ht => rw [ht]; exact ListLe.append TaskRowLe.refl _ _
  | insertAll c s n ht =>
    obtain ⟨_, extra, he, _⟩ := insertTasksFrom_ok ht
    rw [he]; exact ListLe.append TaskRowLe.refl _ _
  | complete c ht => rw [ht]; exact ListLe.update TaskRowLe.refl _ _ (taskRowLe_completeTasks c) _
  | update c hcmd ht => rw [ht]; exact ListLe.update TaskRowLe.refl _ _ (taskRowLe_updateTask c (hu c hcmd)) _
  | heartbeat c ht => rw [ht]; exact ListLe.update TaskRowLe.refl _ _ (taskRowLe_heartbeat c) _

/-- hence every transaction whose `UpdateTask`s are disciplined (the block structure plays no part) -/
theorem taskMono_execTx (cs : List Cmd) (db db' : Db) (rs : List Res) (hu : ∀ c, .updateTask c ∈ cs → wfUpdateTask c = true)
    (h : db.execTx (defs d) cs = .ok (db', rs)) : TaskMono db db' :=
  execTx_inv_db (I := TaskMono db)
    (fun c hc _ _ _ hi hx => hi.trans (taskMono_exec d _ _ c _ (fun u hcu => hu u (hcu ▸ hc)) hx))
    (TaskMono.refl db) h

end Resonate
