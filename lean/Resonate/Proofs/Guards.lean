/-
  Proofs/Guards.lean — the guards of the store's guarded statements (Model/SqlSpec.lean), as statements about rows, so
  that proofs cite them instead of unfolding the definitions.
-/
import Resonate.Model.SqlSpec
namespace Resonate
open SqlSpec

theorem promiseStateOk_iff {s : Nat} : promiseStateOk s = true ↔ s = 2 ∨ s = 4 ∨ s = 8 ∨ s = 16 := by
  simp [promiseStateOk, or_assoc]

/-- the guard of the one UPDATE on promises: `id = ? AND state = 1` -/
theorem promiseUpdate_where_iff (c : UpdatePromiseCmd) (r : PromiseRow) :
    promiseUpdate_where c r = true ↔ r.id = c.id ∧ r.state = 1 := by
  simp [promiseUpdate_where]

/-- the guard of `UpdateTask`: `id = ? AND state & mask != 0 AND counter = ?` -/
theorem taskUpdate_where_iff (c : UpdateTaskCmd) (r : TaskRow) :
    taskUpdate_where c r = true ↔ r.id = c.id ∧ r.state &&& maskOf c.currentStates ≠ 0 ∧ r.counter = c.currentCounter := by
  simp [taskUpdate_where, and_assoc]

/-- `CALLBACK_INSERT`'s `WHERE EXISTS (pending promise) AND NOT EXISTS (registration with this id)` -/
theorem callbackInsert_guard_iff (d : Dialect) (c : CreateCallbackCmd) (db : Db) : (defs d).callbackInsert_guard c db = true ↔
    (∃ p ∈ db.promises, p.id = c.promiseId ∧ p.state = 1) ∧ ∀ cb ∈ db.callbacks, cb.id ≠ c.id := by
  simp [defs, callbackInsert_guard]

end Resonate
