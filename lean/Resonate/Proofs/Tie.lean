/-
  Proofs/Tie.lean — THE REGENERATED TIE.  One theorem per generated definition and dialect:
  what translate/sql2lean.py produced from /repo's SQL text and handler argument lists on this run
  equals the hand-stated specification in Model/SqlSpec.lean.  A change to a guard, an assignment,
  a column list, a default, an argument order or a conflict clause in either back end changes
  Generated/Sql.lean and the corresponding theorem stops checking.
-/
import Resonate.Model.SqlSpec
import Resonate.Generated.Sql
namespace Resonate.Tie
open Resonate

/-- closes `generated = specified`: by definitional unfolding when the texts agree, otherwise by
    extensionality + boolean/arith normalisation (harmless reorderings of conjuncts and the like). -/
macro "tie_tac" : tactic =>
  `(tactic| first
    | rfl
    | (funext a b; simp (config := {decide := true}) [Bool.and_comm, Bool.and_assoc, Bool.and_left_comm, Bool.or_comm]; done)
    | (funext a b c; simp (config := {decide := true}) [Bool.and_comm, Bool.and_assoc, Bool.and_left_comm, Bool.or_comm]; done)
    | (funext a; simp (config := {decide := true}); done))

theorem sqlite_promiseSelect_where : Gen.Sqlite.promiseSelect_where = (SqlSpec.defs .sqlite).promiseSelect_where := by tie_tac
theorem sqlite_promiseSelect_proj : Gen.Sqlite.promiseSelect_proj = (SqlSpec.defs .sqlite).promiseSelect_proj := by tie_tac
theorem sqlite_promiseSelectAll_where : Gen.Sqlite.promiseSelectAll_where = (SqlSpec.defs .sqlite).promiseSelectAll_where := by tie_tac
theorem sqlite_promiseSelectAll_proj : Gen.Sqlite.promiseSelectAll_proj = (SqlSpec.defs .sqlite).promiseSelectAll_proj := by tie_tac
theorem sqlite_promiseSelectAll_limit : Gen.Sqlite.promiseSelectAll_limit = (SqlSpec.defs .sqlite).promiseSelectAll_limit := by tie_tac
theorem sqlite_promiseSearch_where : Gen.Sqlite.promiseSearch_where = (SqlSpec.defs .sqlite).promiseSearch_where := by tie_tac
theorem sqlite_promiseSearch_proj : Gen.Sqlite.promiseSearch_proj = (SqlSpec.defs .sqlite).promiseSearch_proj := by tie_tac
theorem sqlite_promiseSearch_limit : Gen.Sqlite.promiseSearch_limit = (SqlSpec.defs .sqlite).promiseSearch_limit := by tie_tac
theorem sqlite_promiseInsert_row : Gen.Sqlite.promiseInsert_row = (SqlSpec.defs .sqlite).promiseInsert_row := by tie_tac
theorem sqlite_promiseUpdate_where : Gen.Sqlite.promiseUpdate_where = (SqlSpec.defs .sqlite).promiseUpdate_where := by tie_tac
theorem sqlite_promiseUpdate_set : Gen.Sqlite.promiseUpdate_set = (SqlSpec.defs .sqlite).promiseUpdate_set := by tie_tac
theorem sqlite_callbackInsert_row : Gen.Sqlite.callbackInsert_row = (SqlSpec.defs .sqlite).callbackInsert_row := by tie_tac
theorem sqlite_callbackInsert_guard : Gen.Sqlite.callbackInsert_guard = (SqlSpec.defs .sqlite).callbackInsert_guard := by tie_tac
theorem sqlite_callbackDelete_where : Gen.Sqlite.callbackDelete_where = (SqlSpec.defs .sqlite).callbackDelete_where := by tie_tac
theorem sqlite_scheduleSelect_where : Gen.Sqlite.scheduleSelect_where = (SqlSpec.defs .sqlite).scheduleSelect_where := by tie_tac
theorem sqlite_scheduleSelect_proj : Gen.Sqlite.scheduleSelect_proj = (SqlSpec.defs .sqlite).scheduleSelect_proj := by tie_tac
theorem sqlite_scheduleSelectAll_where : Gen.Sqlite.scheduleSelectAll_where = (SqlSpec.defs .sqlite).scheduleSelectAll_where := by tie_tac
theorem sqlite_scheduleSelectAll_proj : Gen.Sqlite.scheduleSelectAll_proj = (SqlSpec.defs .sqlite).scheduleSelectAll_proj := by tie_tac
theorem sqlite_scheduleSelectAll_limit : Gen.Sqlite.scheduleSelectAll_limit = (SqlSpec.defs .sqlite).scheduleSelectAll_limit := by tie_tac
theorem sqlite_scheduleSearch_where : Gen.Sqlite.scheduleSearch_where = (SqlSpec.defs .sqlite).scheduleSearch_where := by tie_tac
theorem sqlite_scheduleSearch_proj : Gen.Sqlite.scheduleSearch_proj = (SqlSpec.defs .sqlite).scheduleSearch_proj := by tie_tac
theorem sqlite_scheduleSearch_limit : Gen.Sqlite.scheduleSearch_limit = (SqlSpec.defs .sqlite).scheduleSearch_limit := by tie_tac
theorem sqlite_scheduleInsert_row : Gen.Sqlite.scheduleInsert_row = (SqlSpec.defs .sqlite).scheduleInsert_row := by tie_tac
theorem sqlite_scheduleUpdate_where : Gen.Sqlite.scheduleUpdate_where = (SqlSpec.defs .sqlite).scheduleUpdate_where := by tie_tac
theorem sqlite_scheduleUpdate_set : Gen.Sqlite.scheduleUpdate_set = (SqlSpec.defs .sqlite).scheduleUpdate_set := by tie_tac
theorem sqlite_scheduleDelete_where : Gen.Sqlite.scheduleDelete_where = (SqlSpec.defs .sqlite).scheduleDelete_where := by tie_tac
theorem sqlite_lockRead_where : Gen.Sqlite.lockRead_where = (SqlSpec.defs .sqlite).lockRead_where := by tie_tac
theorem sqlite_lockRead_proj : Gen.Sqlite.lockRead_proj = (SqlSpec.defs .sqlite).lockRead_proj := by tie_tac
theorem sqlite_lockAcquire_row : Gen.Sqlite.lockAcquire_row = (SqlSpec.defs .sqlite).lockAcquire_row := by tie_tac
theorem sqlite_lockAcquire_conflictWhere : Gen.Sqlite.lockAcquire_conflictWhere = (SqlSpec.defs .sqlite).lockAcquire_conflictWhere := by tie_tac
theorem sqlite_lockAcquire_conflictSet : Gen.Sqlite.lockAcquire_conflictSet = (SqlSpec.defs .sqlite).lockAcquire_conflictSet := by tie_tac
theorem sqlite_lockRelease_where : Gen.Sqlite.lockRelease_where = (SqlSpec.defs .sqlite).lockRelease_where := by tie_tac
theorem sqlite_lockHeartbeat_where : Gen.Sqlite.lockHeartbeat_where = (SqlSpec.defs .sqlite).lockHeartbeat_where := by tie_tac
theorem sqlite_lockHeartbeat_set : Gen.Sqlite.lockHeartbeat_set = (SqlSpec.defs .sqlite).lockHeartbeat_set := by tie_tac
theorem sqlite_lockTimeout_where : Gen.Sqlite.lockTimeout_where = (SqlSpec.defs .sqlite).lockTimeout_where := by tie_tac
theorem sqlite_taskSelect_where : Gen.Sqlite.taskSelect_where = (SqlSpec.defs .sqlite).taskSelect_where := by tie_tac
theorem sqlite_taskSelect_proj : Gen.Sqlite.taskSelect_proj = (SqlSpec.defs .sqlite).taskSelect_proj := by tie_tac
theorem sqlite_taskSelectAll_where : Gen.Sqlite.taskSelectAll_where = (SqlSpec.defs .sqlite).taskSelectAll_where := by tie_tac
theorem sqlite_taskSelectAll_proj : Gen.Sqlite.taskSelectAll_proj = (SqlSpec.defs .sqlite).taskSelectAll_proj := by tie_tac
theorem sqlite_taskSelectAll_limit : Gen.Sqlite.taskSelectAll_limit = (SqlSpec.defs .sqlite).taskSelectAll_limit := by tie_tac
theorem sqlite_taskSelectEnqueueable_where : Gen.Sqlite.taskSelectEnqueueable_where = (SqlSpec.defs .sqlite).taskSelectEnqueueable_where := by tie_tac
theorem sqlite_taskSelectEnqueueable_proj : Gen.Sqlite.taskSelectEnqueueable_proj = (SqlSpec.defs .sqlite).taskSelectEnqueueable_proj := by tie_tac
theorem sqlite_taskSelectEnqueueable_limit : Gen.Sqlite.taskSelectEnqueueable_limit = (SqlSpec.defs .sqlite).taskSelectEnqueueable_limit := by tie_tac
theorem sqlite_taskInsert_row : Gen.Sqlite.taskInsert_row = (SqlSpec.defs .sqlite).taskInsert_row := by tie_tac
theorem sqlite_taskInsertAll_row : Gen.Sqlite.taskInsertAll_row = (SqlSpec.defs .sqlite).taskInsertAll_row := by tie_tac
theorem sqlite_taskInsertAll_where : Gen.Sqlite.taskInsertAll_where = (SqlSpec.defs .sqlite).taskInsertAll_where := by tie_tac
theorem sqlite_taskUpdate_where : Gen.Sqlite.taskUpdate_where = (SqlSpec.defs .sqlite).taskUpdate_where := by tie_tac
theorem sqlite_taskUpdate_set : Gen.Sqlite.taskUpdate_set = (SqlSpec.defs .sqlite).taskUpdate_set := by tie_tac
theorem sqlite_taskCompleteByRootId_where : Gen.Sqlite.taskCompleteByRootId_where = (SqlSpec.defs .sqlite).taskCompleteByRootId_where := by tie_tac
theorem sqlite_taskCompleteByRootId_set : Gen.Sqlite.taskCompleteByRootId_set = (SqlSpec.defs .sqlite).taskCompleteByRootId_set := by tie_tac
theorem sqlite_taskHeartbeat_where : Gen.Sqlite.taskHeartbeat_where = (SqlSpec.defs .sqlite).taskHeartbeat_where := by tie_tac
theorem sqlite_taskHeartbeat_set : Gen.Sqlite.taskHeartbeat_set = (SqlSpec.defs .sqlite).taskHeartbeat_set := by tie_tac
theorem sqlite_shape : Gen.Sqlite.shape = (SqlSpec.defs .sqlite).shape := rfl
theorem sqlite_wiring : Gen.Sqlite.wiring = (SqlSpec.defs .sqlite).wiring := rfl
theorem sqlite_uniques : Gen.Sqlite.uniques = (SqlSpec.defs .sqlite).uniques := rfl
theorem pg_promiseSelect_where : Gen.Pg.promiseSelect_where = (SqlSpec.defs .pg).promiseSelect_where := by tie_tac
theorem pg_promiseSelect_proj : Gen.Pg.promiseSelect_proj = (SqlSpec.defs .pg).promiseSelect_proj := by tie_tac
theorem pg_promiseSelectAll_where : Gen.Pg.promiseSelectAll_where = (SqlSpec.defs .pg).promiseSelectAll_where := by tie_tac
theorem pg_promiseSelectAll_proj : Gen.Pg.promiseSelectAll_proj = (SqlSpec.defs .pg).promiseSelectAll_proj := by tie_tac
theorem pg_promiseSelectAll_limit : Gen.Pg.promiseSelectAll_limit = (SqlSpec.defs .pg).promiseSelectAll_limit := by tie_tac
theorem pg_promiseSearch_where : Gen.Pg.promiseSearch_where = (SqlSpec.defs .pg).promiseSearch_where := by tie_tac
theorem pg_promiseSearch_proj : Gen.Pg.promiseSearch_proj = (SqlSpec.defs .pg).promiseSearch_proj := by tie_tac
theorem pg_promiseSearch_limit : Gen.Pg.promiseSearch_limit = (SqlSpec.defs .pg).promiseSearch_limit := by tie_tac
theorem pg_promiseInsert_row : Gen.Pg.promiseInsert_row = (SqlSpec.defs .pg).promiseInsert_row := by tie_tac
theorem pg_promiseUpdate_where : Gen.Pg.promiseUpdate_where = (SqlSpec.defs .pg).promiseUpdate_where := by tie_tac
theorem pg_promiseUpdate_set : Gen.Pg.promiseUpdate_set = (SqlSpec.defs .pg).promiseUpdate_set := by tie_tac
theorem pg_callbackInsert_row : Gen.Pg.callbackInsert_row = (SqlSpec.defs .pg).callbackInsert_row := by tie_tac
theorem pg_callbackInsert_guard : Gen.Pg.callbackInsert_guard = (SqlSpec.defs .pg).callbackInsert_guard := by tie_tac
theorem pg_callbackDelete_where : Gen.Pg.callbackDelete_where = (SqlSpec.defs .pg).callbackDelete_where := by tie_tac
theorem pg_scheduleSelect_where : Gen.Pg.scheduleSelect_where = (SqlSpec.defs .pg).scheduleSelect_where := by tie_tac
theorem pg_scheduleSelect_proj : Gen.Pg.scheduleSelect_proj = (SqlSpec.defs .pg).scheduleSelect_proj := by tie_tac
theorem pg_scheduleSelectAll_where : Gen.Pg.scheduleSelectAll_where = (SqlSpec.defs .pg).scheduleSelectAll_where := by tie_tac
theorem pg_scheduleSelectAll_proj : Gen.Pg.scheduleSelectAll_proj = (SqlSpec.defs .pg).scheduleSelectAll_proj := by tie_tac
theorem pg_scheduleSelectAll_limit : Gen.Pg.scheduleSelectAll_limit = (SqlSpec.defs .pg).scheduleSelectAll_limit := by tie_tac
theorem pg_scheduleSearch_where : Gen.Pg.scheduleSearch_where = (SqlSpec.defs .pg).scheduleSearch_where := by tie_tac
theorem pg_scheduleSearch_proj : Gen.Pg.scheduleSearch_proj = (SqlSpec.defs .pg).scheduleSearch_proj := by tie_tac
theorem pg_scheduleSearch_limit : Gen.Pg.scheduleSearch_limit = (SqlSpec.defs .pg).scheduleSearch_limit := by tie_tac
theorem pg_scheduleInsert_row : Gen.Pg.scheduleInsert_row = (SqlSpec.defs .pg).scheduleInsert_row := by tie_tac
theorem pg_scheduleUpdate_where : Gen.Pg.scheduleUpdate_where = (SqlSpec.defs .pg).scheduleUpdate_where := by tie_tac
theorem pg_scheduleUpdate_set : Gen.Pg.scheduleUpdate_set = (SqlSpec.defs .pg).scheduleUpdate_set := by tie_tac
theorem pg_scheduleDelete_where : Gen.Pg.scheduleDelete_where = (SqlSpec.defs .pg).scheduleDelete_where := by tie_tac
theorem pg_lockRead_where : Gen.Pg.lockRead_where = (SqlSpec.defs .pg).lockRead_where := by tie_tac
theorem pg_lockRead_proj : Gen.Pg.lockRead_proj = (SqlSpec.defs .pg).lockRead_proj := by tie_tac
theorem pg_lockAcquire_row : Gen.Pg.lockAcquire_row = (SqlSpec.defs .pg).lockAcquire_row := by tie_tac
theorem pg_lockAcquire_conflictWhere : Gen.Pg.lockAcquire_conflictWhere = (SqlSpec.defs .pg).lockAcquire_conflictWhere := by tie_tac
theorem pg_lockAcquire_conflictSet : Gen.Pg.lockAcquire_conflictSet = (SqlSpec.defs .pg).lockAcquire_conflictSet := by tie_tac
theorem pg_lockRelease_where : Gen.Pg.lockRelease_where = (SqlSpec.defs .pg).lockRelease_where := by tie_tac
theorem pg_lockHeartbeat_where : Gen.Pg.lockHeartbeat_where = (SqlSpec.defs .pg).lockHeartbeat_where := by tie_tac
theorem pg_lockHeartbeat_set : Gen.Pg.lockHeartbeat_set = (SqlSpec.defs .pg).lockHeartbeat_set := by tie_tac
theorem pg_lockTimeout_where : Gen.Pg.lockTimeout_where = (SqlSpec.defs .pg).lockTimeout_where := by tie_tac
theorem pg_taskSelect_where : Gen.Pg.taskSelect_where = (SqlSpec.defs .pg).taskSelect_where := by tie_tac
theorem pg_taskSelect_proj : Gen.Pg.taskSelect_proj = (SqlSpec.defs .pg).taskSelect_proj := by tie_tac
theorem pg_taskSelectAll_where : Gen.Pg.taskSelectAll_where = (SqlSpec.defs .pg).taskSelectAll_where := by tie_tac
theorem pg_taskSelectAll_proj : Gen.Pg.taskSelectAll_proj = (SqlSpec.defs .pg).taskSelectAll_proj := by tie_tac
theorem pg_taskSelectAll_limit : Gen.Pg.taskSelectAll_limit = (SqlSpec.defs .pg).taskSelectAll_limit := by tie_tac
theorem pg_taskSelectEnqueueable_where : Gen.Pg.taskSelectEnqueueable_where = (SqlSpec.defs .pg).taskSelectEnqueueable_where := by tie_tac
theorem pg_taskSelectEnqueueable_proj : Gen.Pg.taskSelectEnqueueable_proj = (SqlSpec.defs .pg).taskSelectEnqueueable_proj := by tie_tac
theorem pg_taskSelectEnqueueable_limit : Gen.Pg.taskSelectEnqueueable_limit = (SqlSpec.defs .pg).taskSelectEnqueueable_limit := by tie_tac
theorem pg_taskInsert_row : Gen.Pg.taskInsert_row = (SqlSpec.defs .pg).taskInsert_row := by tie_tac
theorem pg_taskInsertAll_row : Gen.Pg.taskInsertAll_row = (SqlSpec.defs .pg).taskInsertAll_row := by tie_tac
theorem pg_taskInsertAll_where : Gen.Pg.taskInsertAll_where = (SqlSpec.defs .pg).taskInsertAll_where := by tie_tac
theorem pg_taskUpdate_where : Gen.Pg.taskUpdate_where = (SqlSpec.defs .pg).taskUpdate_where := by tie_tac
theorem pg_taskUpdate_set : Gen.Pg.taskUpdate_set = (SqlSpec.defs .pg).taskUpdate_set := by tie_tac
theorem pg_taskCompleteByRootId_where : Gen.Pg.taskCompleteByRootId_where = (SqlSpec.defs .pg).taskCompleteByRootId_where := by tie_tac
theorem pg_taskCompleteByRootId_set : Gen.Pg.taskCompleteByRootId_set = (SqlSpec.defs .pg).taskCompleteByRootId_set := by tie_tac
theorem pg_taskHeartbeat_where : Gen.Pg.taskHeartbeat_where = (SqlSpec.defs .pg).taskHeartbeat_where := by tie_tac
theorem pg_taskHeartbeat_set : Gen.Pg.taskHeartbeat_set = (SqlSpec.defs .pg).taskHeartbeat_set := by tie_tac
theorem pg_shape : Gen.Pg.shape = (SqlSpec.defs .pg).shape := rfl
theorem pg_wiring : Gen.Pg.wiring = (SqlSpec.defs .pg).wiring := rfl
theorem pg_uniques : Gen.Pg.uniques = (SqlSpec.defs .pg).uniques := rfl

end Resonate.Tie
