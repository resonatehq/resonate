/-
  Proofs/Tree.lean — predicates on interaction trees.  `Tree` is the general one: what is submitted at every yield, what
  every finished leaf carries, how high the tree is, along the completions `L` admits.  The predicates the kernel proofs
  consume (`AllYields`, `AllYieldsL`, `Resp1`, `Depth`) are its projections, so each coroutine is walked once
  (Proofs/Walk.lean) and every one of them is read off.  `Quick` (how soon a coroutine blocks) looks at the root only.
-/
import Resonate.Model.Coroutines
namespace Resonate

inductive AllYields (P : List Cmd → Prop) : Co → Prop
  | done (o : Option Resp) : AllYields P (.done o)
  | retry : AllYields P .retry
  | panic (s : String) : AllYields P (.panic s)
  | yield (subs : List Subm) (k : Time → List Cpl → Co) :
      (∀ tx, Subm.store tx ∈ subs → P tx) → (∀ t cpls, AllYields P (k t cpls)) → AllYields P (.yield subs k)

namespace WInv

/-- like `AllYields`, but the continuation is only followed for completions that satisfy `L` -/
inductive AllYieldsL (P : List Cmd → Prop) (L : Cpl → Prop) : Co → Prop
  | done (o : Option Resp) : AllYieldsL P L (.done o)
  | retry : AllYieldsL P L .retry
  | panic (s : String) : AllYieldsL P L (.panic s)
  | yield (subs : List Subm) (k : Time → List Cpl → Co) :
      (∀ tx, Subm.store tx ∈ subs → P tx) → (∀ t cpls, (∀ c ∈ cpls, L c) → AllYieldsL P L (k t cpls)) → AllYieldsL P L (.yield subs k)

theorem AllYields.toL {P : List Cmd → Prop} {L : Cpl → Prop} : ∀ {co : Co}, AllYields P co → AllYieldsL P L co := by
  intro co h
  induction h with
  | done o => exact .done o
  | retry => exact .retry
  | panic s => exact .panic s
  | yield subs k hs _ ih => exact .yield _ _ hs (fun t c _ => ih t c)

theorem AllYieldsL.and {P Q : List Cmd → Prop} {L : Cpl → Prop} :
    ∀ {co : Co}, AllYieldsL P L co → AllYieldsL Q L co → AllYieldsL (fun tx => P tx ∧ Q tx) L co := by
  intro co hp
  induction hp with
  | done o => intro _; exact .done o
  | retry => intro _; exact .retry
  | panic s => intro _; exact .panic s
  | yield subs k hs _ ih =>
    intro hq
    cases hq with
    | yield _ _ hs' hk' => exact .yield _ _ (fun tx hm => ⟨hs tx hm, hs' tx hm⟩) (fun t c hl => ih t c hl (hk' t c hl))

end WInv

theorem AllYields.ofL {P : List Cmd → Prop} : ∀ {co : Co}, WInv.AllYieldsL P (fun _ => True) co → AllYields P co := by
  intro co h
  induction h with
  | done o => exact .done o
  | retry => exact .retry
  | panic s => exact .panic s
  | yield subs k hs _ ih => exact .yield _ _ hs (fun t c => ih t c (fun _ _ => trivial))

/-- every finished leaf carries a response -/
inductive Resp1 : Co → Prop
  | done (r : Resp) : Resp1 (.done (some r))
  | retry : Resp1 .retry
  | panic (s : String) : Resp1 (.panic s)
  | yield (subs : List Subm) (k : Time → List Cpl → Co) : (∀ t cpls, Resp1 (k t cpls)) → Resp1 (.yield subs k)

/-- height at most `n`, counting every node — leaf or yield — as one: one node is one step of `Thread.run` -/
inductive Depth : Nat → Co → Prop
  | done (n : Nat) (o : Option Resp) : Depth (n + 1) (.done o)
  | retry (n : Nat) : Depth (n + 1) .retry
  | panic (n : Nat) (s : String) : Depth (n + 1) (.panic s)
  | yield (n : Nat) (subs : List Subm) (k : Time → List Cpl → Co) : (∀ t cpls, Depth n (k t cpls)) → Depth (n + 1) (.yield subs k)

theorem Depth.add (k : Nat) : ∀ {n : Nat} {co : Co}, Depth n co → Depth (k + n) co := by
  intro n co h
  induction h with
  | done n o => exact .done _ _
  | retry n => exact .retry _
  | panic n s => exact .panic _ _
  | yield n subs k' _ ih => exact .yield _ _ _ ih

theorem Depth.mono {n : Nat} {co : Co} (h : Depth n co) {m : Nat} (hm : n ≤ m) : Depth m co := by
  obtain ⟨k, rfl⟩ := Nat.exists_eq_add_of_le' hm
  exact h.add k

/-- steps of `Thread.run` until the coroutine blocks (non-empty yield), finishes, or restarts (a restart costs two: the
    `retry` node and the first node of the restarted body) -/
inductive Quick : Nat → Co → Prop
  | done (n : Nat) (o : Option Resp) : Quick (n + 1) (.done o)
  | panic (n : Nat) (s : String) : Quick (n + 1) (.panic s)
  | retry (n : Nat) : Quick (n + 2) .retry
  | block (n : Nat) (subs : List Subm) (k : Time → List Cpl → Co) : subs ≠ [] → Quick (n + 1) (.yield subs k)
  | skip (n : Nat) (subs : List Subm) (k : Time → List Cpl → Co) : (∀ t, Quick n (k t [])) → Quick (n + 1) (.yield subs k)

theorem quick_of_depth : ∀ {n : Nat} {co : Co}, Depth n co → Quick (n + 1) co := by
  intro n co h
  induction h with
  | done n o => exact .done _ _
  | retry n => exact .retry _
  | panic n s => exact .panic _ _
  | yield n subs k _ ih => exact .skip _ _ _ (fun t => ih t [])

theorem Quick.ite {c : Prop} [Decidable c] {n : Nat} {a b : Co} (ha : Quick n a) (hb : Quick n b) :
    Quick n (if c then a else b) := by
  split <;> assumption

/-- `Tree L Y D n co`: the interaction tree of `co`, followed along completions that satisfy `L`, submits only what `Y`
    admits, finishes only with what `D` admits, and has height at most `n` -/
inductive Tree (L : Cpl → Prop) (Y : List Subm → Prop) (D : Option Resp → Prop) : Nat → Co → Prop
  | done (n : Nat) (o : Option Resp) : D o → Tree L Y D (n + 1) (.done o)
  | retry (n : Nat) : Tree L Y D (n + 1) .retry
  | panic (n : Nat) (s : String) : Tree L Y D (n + 1) (.panic s)
  | yield (n : Nat) (subs : List Subm) (k : Time → List Cpl → Co) :
      Y subs → (∀ t cpls, (∀ c ∈ cpls, L c) → Tree L Y D n (k t cpls)) → Tree L Y D (n + 1) (.yield subs k)

namespace Tree
variable {L : Cpl → Prop} {Y : List Subm → Prop} {D : Option Resp → Prop}

/-- branching costs the walk nothing: no rewriting below the condition, as `split` would do -/
theorem ite {c : Prop} [Decidable c] {n : Nat} {a b : Co} (ha : c → Tree L Y D n a) (hb : ¬c → Tree L Y D n b) :
    Tree L Y D n (if c then a else b) := by
  split
  · exact ha ‹_›
  · exact hb ‹_›

theorem add (k : Nat) : ∀ {n : Nat} {co : Co}, Tree L Y D n co → Tree L Y D (k + n) co := by
  intro n co h
  induction h with
  | done n o hd => exact .done _ _ hd
  | retry n => exact .retry _
  | panic n s => exact .panic _ _
  | yield n subs k' hy _ ih => exact .yield _ _ _ hy ih

theorem le {n : Nat} {co : Co} (h : Tree L Y D n co) {m : Nat} (hm : n ≤ m) : Tree L Y D m co := by
  obtain ⟨k, rfl⟩ := Nat.exists_eq_add_of_le' hm
  exact h.add k

theorem allYieldsL {P : List Cmd → Prop} (hY : ∀ s, Y s → ∀ tx, Subm.store tx ∈ s → P tx) :
    ∀ {n : Nat} {co : Co}, Tree L Y D n co → WInv.AllYieldsL P L co := by
  intro n co h
  induction h with
  | done => exact .done _
  | retry => exact .retry
  | panic => exact .panic _
  | yield n subs k hy _ ih => exact .yield _ _ (hY _ hy) ih

theorem allYields {P : List Cmd → Prop} (hY : ∀ s, Y s → ∀ tx, Subm.store tx ∈ s → P tx) {n : Nat} {co : Co}
    (h : Tree (fun _ => True) Y D n co) : AllYields P co :=
  AllYields.ofL (h.allYieldsL hY)

theorem resp1 : ∀ {n : Nat} {co : Co}, Tree (fun _ => True) Y (fun o => o.isSome = true) n co → Resp1 co := by
  intro n co h
  induction h with
  | done n o hd => cases o with
    | none => cases hd
    | some r => exact .done r
  | retry => exact .retry
  | panic => exact .panic _
  | yield n subs k _ _ ih => exact .yield _ _ (fun t c => ih t c (fun _ _ => trivial))

theorem depth : ∀ {n : Nat} {co : Co}, Tree (fun _ => True) Y D n co → Depth n co := by
  intro n co h
  induction h with
  | done => exact .done _ _
  | retry => exact .retry _
  | panic => exact .panic _ _
  | yield n subs k _ _ ih => exact .yield _ _ _ (fun t c => ih t c (fun _ _ => trivial))

end Tree
end Resonate
