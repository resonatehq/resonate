/-
  Proofs/Paging.lean — one page of a keyset-paginated search, abstractly:
  a table `l` in strictly increasing key order, a match predicate `m`, an optional cursor (only keys
  strictly below it qualify), newest first, at most `n` rows.
-/
import Resonate.Proofs.StoreBasics
namespace Resonate
variable {α : Type}

def below (c : Option Int) (k : Nat) : Bool :=
  match c with
  | none => true
  | some x => decide ((k : Int) < x)

def pageOf (l : List α) (k : α → Nat) (m : α → Bool) (c : Option Int) (n : Nat) : List α :=
  ((l.filter fun r => below c (k r) && m r).reverse).take n

/-- all qualifying rows, newest first -/
def allBelow (l : List α) (k : α → Nat) (m : α → Bool) (c : Option Int) : List α := (l.filter fun r => below c (k r) && m r).reverse

/-- a page is the first `n` qualifying rows -/
theorem pageOf_eq_take (l : List α) (k : α → Nat) (m : α → Bool) (c : Option Int) (n : Nat) :
    pageOf l k m c n = (allBelow l k m c).take n := rfl

/-! ### the two facts about `allBelow` everything else rests on -/

theorem mem_allBelow {l : List α} {k : α → Nat} {m : α → Bool} {c : Option Int} {r : α} :
    r ∈ allBelow l k m c ↔ r ∈ l ∧ m r = true ∧ below c (k r) = true := by
  rw [allBelow, List.mem_reverse, List.mem_filter, Bool.and_eq_true, and_comm (a := below _ _ = true)]

theorem allBelow_descending (l : List α) (k : α → Nat) (m : α → Bool) (c : Option Int)
    (h : l.Pairwise fun a b => k a < k b) : (allBelow l k m c).Pairwise fun a b => k b < k a :=
  List.pairwise_reverse.mpr (h.sublist List.filter_sublist)

/-- (1) newest first: keys strictly decrease along the page -/
theorem page_descending (l : List α) (k : α → Nat) (m : α → Bool) (c : Option Int) (n : Nat)
    (h : l.Pairwise fun a b => k a < k b) : (pageOf l k m c n).Pairwise fun a b => k b < k a :=
  (allBelow_descending l k m c h).sublist (List.take_sublist _ _)

/-- (2) soundness: every returned row is a row of the table that matches and lies below the cursor -/
theorem page_sound (l : List α) (k : α → Nat) (m : α → Bool) (c : Option Int) (n : Nat) (r : α)
    (hr : r ∈ pageOf l k m c n) : r ∈ l ∧ m r = true ∧ below c (k r) = true :=
  mem_allBelow.mp (List.mem_of_mem_take hr)

/-- (3) at most the requested page size -/
theorem page_length (l : List α) (k : α → Nat) (m : α → Bool) (c : Option Int) (n : Nat) : (pageOf l k m c n).length ≤ n :=
  List.length_take_le _ _

/-- (4) completeness: a matching row below the cursor is on the page, unless the page is full and the
    row is older than everything on it (then it is left for a later page) -/
theorem page_complete (l : List α) (k : α → Nat) (m : α → Bool) (c : Option Int) (n : Nat)
    (h : l.Pairwise fun a b => k a < k b) (r : α) (hr : r ∈ l) (hm : m r = true) (hb : below c (k r) = true) :
    r ∈ pageOf l k m c n ∨ ((pageOf l k m c n).length = n ∧ ∀ x ∈ pageOf l k m c n, k r < k x) := by
  -- `r` is among the qualifying rows = page ++ rest (descending); if it is in the rest, the page is full
  have hF : r ∈ allBelow l k m c := mem_allBelow.mpr ⟨hr, hm, hb⟩
  have hd := allBelow_descending l k m c h
  rw [← List.take_append_drop n (allBelow l k m c)] at hF hd
  rcases List.mem_append.mp hF with h1 | h2
  · exact .inl h1
  · have hpos := List.length_pos_of_mem h2
    rw [List.length_drop] at hpos
    have hfull : n ≤ (allBelow l k m c).length := Nat.le_of_lt (Nat.lt_of_sub_pos hpos)
    exact .inr ⟨(List.length_take ..).trans (Nat.min_eq_left hfull), fun x hx => (List.pairwise_append.mp hd).2.2 x hx r h2⟩

/-- a page is full exactly when there are at least `n` qualifying rows -/
theorem page_full_iff (l : List α) (k : α → Nat) (m : α → Bool) (c : Option Int) (n : Nat) :
    (pageOf l k m c n).length = n ↔ n ≤ (l.filter fun r => below c (k r) && m r).length := by
  rw [pageOf, List.length_take, List.length_reverse]
  exact ⟨fun h => h ▸ Nat.min_le_right _ _, Nat.min_eq_left⟩

/-- in a strictly descending list, the elements with a key below that of the element at position `i`
    are exactly the elements after position `i` -/
theorem filter_below_eq_drop (k : α → Nat) : ∀ (G : List α), (G.Pairwise fun a b => k b < k a) →
    ∀ (i : Nat) (x : α), G[i]? = some x → G.filter (fun r => decide (k r < k x)) = G.drop (i + 1) := by
  intro G
  induction G with
  | nil => intro _ i x h; cases h
  | cons a G ih =>
    intro hp i x hx
    rw [List.pairwise_cons] at hp
    -- the head is not below `x` (it is `x` or above it), so the filter drops it
    have ha : decide (k a < k x) = false := by
      cases i with
      | zero => cases hx; exact decide_eq_false (Nat.lt_irrefl _)
      | succ i => exact decide_eq_false (Nat.lt_asymm (hp.1 x (List.mem_of_getElem? hx)))
    rw [List.filter_cons_of_neg (by rw [ha]; exact Bool.false_ne_true), List.drop_succ_cons]
    cases i with
    | zero =>
      cases hx
      exact List.filter_eq_self.mpr fun b hb => decide_eq_true (hp.1 b hb)
    | succ i => exact ih hp.2 i x hx

theorem below_some (a b : Nat) : below (some (b : Int)) a = decide (a < b) :=
  decide_eq_decide.mpr Int.ofNat_lt

theorem below_of_lt {c : Option Int} {a b : Nat} (hb : below c b = true) (hlt : a < b) : below c a = true := by
  cases c with
  | none => rfl
  | some x => exact decide_eq_true (Int.lt_trans (Int.ofNat_lt.mpr hlt) (of_decide_eq_true hb))

/-- **Following the cursor.** If a page is full and `x` is its last row, then the qualifying rows below the
    next cursor `x.key` are exactly the rest: nothing is skipped and nothing is returned twice. -/
theorem next_page_is_rest (l : List α) (k : α → Nat) (m : α → Bool) (c : Option Int) (n : Nat) (hn : 0 < n)
    (h : l.Pairwise fun a b => k a < k b) (x : α) (hx : (allBelow l k m c)[n - 1]? = some x) :
    allBelow l k m (some (k x : Int)) = (allBelow l k m c).drop n := by
  have key := filter_below_eq_drop k _ (allBelow_descending l k m c h) (n - 1) x hx
  rw [Nat.sub_add_cancel hn] at key
  rw [← key, allBelow, allBelow, List.filter_reverse, List.filter_filter]
  -- "below the new cursor" = "below the old cursor and below `x`", because `x` is below the old cursor
  have hxq : below c (k x) = true := (mem_allBelow.mp (List.mem_of_getElem? hx)).2.2
  congr 1
  refine List.filter_congr fun r _ => ?_
  rw [below_some]
  by_cases hlt : k r < k x
  · rw [below_of_lt hxq hlt]; rfl
  · rw [decide_eq_false hlt, Bool.false_and, Bool.false_and]

/-- The pages a client gets by following the cursors: a full page comes with a cursor, the key of its last row
    (`C14.search_response`), and the next request carries it; a page that is not full is the last.  `fuel` bounds the
    number of requests. -/
def pagesFrom (l : List α) (k : α → Nat) (m : α → Bool) (n : Nat) : Nat → Option Int → List (List α)
  | 0, _ => []
  | fuel + 1, c =>
    match (pageOf l k m c n)[n - 1]? with
    | some x => pageOf l k m c n :: pagesFrom l k m n fuel (some (k x))
    | none => [pageOf l k m c n]

/-- **The whole traversal on a fixed table**: the pages of size `n` got by following the cursors, concatenated, are
    exactly all qualifying rows, each once, newest first. -/
theorem pagesFrom_spec (l : List α) (k : α → Nat) (m : α → Bool) (n : Nat) (hn : 0 < n)
    (h : l.Pairwise fun a b => k a < k b) :
    ∀ (fuel : Nat) (c : Option Int), (allBelow l k m c).length ≤ fuel * n →
      (pagesFrom l k m n fuel c).flatten = allBelow l k m c ∧ ∀ p ∈ pagesFrom l k m n fuel c, p.length ≤ n := by
  intro fuel
  induction fuel with
  | zero =>
    intro c hlen
    rw [Nat.zero_mul] at hlen
    exact ⟨(List.eq_nil_of_length_eq_zero (Nat.le_zero.mp hlen)).symm, fun _ hp => nomatch hp⟩
  | succ fuel ih =>
    intro c hlen
    rw [pagesFrom, pageOf_eq_take]
    cases hx : ((allBelow l k m c).take n)[n - 1]? with
    | some x =>
      -- a full page with last row `x`, then (induction) the pages from the cursor `k x`, which make up the rest
      rw [List.getElem?_take_of_lt (Nat.sub_lt hn Nat.one_pos)] at hx
      have hrest := next_page_is_rest l k m c n hn h x hx
      have ⟨hflat, hsz⟩ := ih (some (k x)) (by rw [hrest, List.length_drop]; exact Nat.sub_le_of_le_add (Nat.succ_mul fuel n ▸ hlen))
      exact ⟨by rw [List.flatten_cons, hflat, hrest, List.take_append_drop], List.forall_mem_cons.mpr ⟨List.length_take_le _ _, hsz⟩⟩
    | none =>
      -- fewer than `n` rows: the page holds them all
      have hlt : (allBelow l k m c).length ≤ n := by
        have := List.getElem?_eq_none_iff.mp hx
        rw [List.length_take] at this
        omega
      exact ⟨by rw [List.flatten_cons, List.flatten_nil, List.append_nil, List.take_of_length_le hlt],
        List.forall_mem_cons.mpr ⟨List.length_take_le _ _, fun _ hp => nomatch hp⟩⟩

theorem traversal (l : List α) (k : α → Nat) (m : α → Bool) (n : Nat) (hn : 0 < n)
    (h : l.Pairwise fun a b => k a < k b) :
    ∀ (fuel : Nat) (c : Option Int), (allBelow l k m c).length ≤ fuel * n →
      ∃ pages : List (List α), pages.flatten = allBelow l k m c ∧ (∀ p ∈ pages, p.length ≤ n) :=
  fun fuel c hlen => ⟨_, pagesFrom_spec l k m n hn h fuel c hlen⟩

/-- SQL `WHERE w ORDER BY key DESC LIMIT n` with `n ≥ 0` is the abstract page, as soon as
   the WHERE clause says "below the cursor and matching" -/
theorem takeLimit_eq_pageOf (l : List α) (k : α → Nat) (m : α → Bool) (c : Option Int) (w : α → Bool) (n : Int)
    (hn : 0 ≤ n) (hw : ∀ r, w r = (below c (k r) && m r)) :
    takeLimit n (l.filter w).reverse = pageOf l k m c n.toNat := by
  rw [takeLimit, if_neg (Int.not_lt.mpr hn), funext hw]; rfl

end Resonate
