/-
  Proofs/NoStoreAssert.lean — the store's own assertions (`util.Assert` inside the command handlers: a search without a
  pattern, a completion state that is none of resolved / rejected / canceled / timed out, a task read or update without
  states, a task created in a state other than init / claimed) are never reached: every command of every transaction any
  coroutine can yield satisfies `cmdNA` (Proofs/Walk.lean), and a command that satisfies it never makes `Db.exec` fail with `.assertion`.
  (In the Go code such an assertion panics the store worker goroutine and takes the process down.)
-/
import Resonate.Proofs.TxShape
namespace Resonate

theorem createTask_no_assert (g : SqlDefs) (db : Db) (c : CreateTaskCmd) (h : taskCmdNA c) (m : String) :
    db.createTask g c ≠ .error (.assertion m) := by
  rw [Db.createTask_valid g db h.1 h.2]
  exact ite_ok_ne_error

/-- the only error of `TASK_INSERT_ALL` is the UNIQUE violation -/
theorem insertTasksFrom_error {g : SqlDefs} {c : CreateTasksCmd} {e : StoreErr} {cbs : List CallbackRow} {ts : List TaskRow} {sq : Nat}
    (h : insertTasksFrom g c cbs ts sq = .error e) : ∃ id, e = .uniqueTaskId id := by
  induction cbs generalizing ts sq with
  | nil => cases h
  | cons cb rest ih =>
    rw [insertTasksFrom] at h
    split at h
    · cases h; exact ⟨_, rfl⟩
    · split at h
      · cases h
      · cases h; exact ih ‹_›

/-- Of the five guarded commands `cmdNA` is the negation of the guard; `createTask` asserts inside `Db.createTask`;
    `createTasks` fails with a UNIQUE violation only; nothing else fails at all. -/
theorem exec_no_assert (g : SqlDefs) (db : Db) (c : Cmd) (h : cmdNA c) (m : String) : db.exec g c ≠ .error (.assertion m) := by
  cases c with
  | searchPromises c | searchSchedules c | updatePromise c | readTasks c | updateTask c =>
    exact ite_error_ne_error (by simpa [cmdNA] using h)
  | createTask c =>
    intro hx
    rw [Db.exec] at hx
    split at hx
    · cases hx
    · cases hx; exact createTask_no_assert g db c h m ‹_›
  | createPromiseAndTask c =>
    intro hx
    simp only [Db.exec] at hx
    split at hx
    · cases hx
    · split at hx
      · cases hx
      · cases hx; exact createTask_no_assert g _ c.taskCommand h m ‹_›
  | createTasks c =>
    intro hx
    rw [Db.exec] at hx
    split at hx
    · cases hx
    · cases hx
      obtain ⟨_, he⟩ := insertTasksFrom_error ‹_›
      cases he
  | createCallback c | createSchedule c | acquireLock c => exact ite_ok_ne_error
  | _ => nofun

theorem execTx_no_assert (g : SqlDefs) (tx : List Cmd) (db : Db) (hc : ∀ c ∈ tx, cmdNA c) (m : String) :
    db.execTx g tx ≠ .error (.assertion m) := fun h =>
  let ⟨c, hcm, db1, h1⟩ := execTx_error h
  exec_no_assert g db1 c (hc c hcm) m h1

/-- a batch of transactions of the shape the coroutines emit never trips an assertion of the store -/
theorem execTxs_no_assert (g : SqlDefs) (txs : List (List Cmd)) (db : Db) (hc : ∀ tx ∈ txs, NA tx) (m : String) :
    db.execTxs g txs ≠ .error (.assertion m) := fun h => by
  rcases execTxs_error h with h0 | ⟨tx, htx, db1, h1⟩
  · exact (hc [] h0).1 rfl
  · exact execTx_no_assert g tx db1 (hc tx htx).2 m h1

end Resonate
