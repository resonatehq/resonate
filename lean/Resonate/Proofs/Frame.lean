/-
  Proofs/Frame.lean — `Db.exec` characterised, for every SqlDefs instance: which tables a command can change
  (`exec_frame`), what one successful command does to each table (`exec_promises` … `exec_tasks`), and what it
  reports (`Db.resOf`, `exec_res`).  Theorems about all commands rest on these instead of unfolding `Db.exec`.

  How `h : db.exec g cmd = .ok (db', r)` is inverted depends only on the shape of the command's clause.  A read or an
  unconditional write is `.ok (…)` as it stands: `cases h`.  A guarded one (`if bad then .error … else .ok …`) is
  `ite_error_eq_ok`, a conditional insert (`if … then .ok … else .ok …`) is `ite_ok_eq_ok`.  The three commands that run
  `Db.createTask` or `insertTasksFrom` and can fail inside it are inverted once each, below.
-/
import Resonate.Model.Store
import Resonate.Proofs.StoreBasics
import Resonate.Proofs.Lift
namespace Resonate

variable {g : SqlDefs} {db db' : Db} {r : Res}

theorem createPromise_frame (g : SqlDefs) (db : Db) (c : CreatePromiseCmd) :
    (db.createPromise g c).1 =
      { db with promises := (db.createPromise g c).1.promises, seqP := (db.createPromise g c).1.seqP } := by
  unfold Db.createPromise; split <;> rfl

theorem createPromise_count (g : SqlDefs) (db : Db) (c : CreatePromiseCmd) :
    (db.createPromise g c).2 = if db.promises.any (fun r => r.id == c.id) then 0 else 1 := by
  unfold Db.createPromise; split <;> rfl

theorem createTask_ok {c : CreateTaskCmd} {n : Nat} (h : db.createTask g c = .ok (db', n)) :
    (c.state = 1 ∨ c.state = 4) ∧
    (db.tasks.any (fun r => r.id == c.id) = true ∧ db' = { db with seqT := db.seqT + 1 } ∧ n = 0 ∨
     ¬ db.tasks.any (fun r => r.id == c.id) = true ∧
       db' = { db with tasks := db.tasks ++ [g.taskInsert_row c (db.seqT + 1)], seqT := db.seqT + 1 } ∧ n = 1) := by
  obtain ⟨hst, h⟩ := ite_error_eq_ok.mp h
  obtain ⟨_, h⟩ := ite_error_eq_ok.mp h
  simp only [Bool.not_eq_true', Bool.not_eq_false, Bool.or_eq_true, beq_iff_eq] at hst
  refine ⟨hst, ?_⟩
  rcases ite_ok_eq_ok.mp h with ⟨ha, h⟩ | ⟨ha, h⟩ <;> cases h
  · exact .inl ⟨ha, rfl, rfl⟩
  · exact .inr ⟨ha, rfl, rfl⟩

theorem createTask_frame {c : CreateTaskCmd} {n : Nat} (h : db.createTask g c = .ok (db', n)) :
    db' = { db with tasks := db'.tasks, seqT := db'.seqT } := by
  rcases (createTask_ok h).2 with ⟨_, rfl, _⟩ | ⟨_, rfl, _⟩ <;> rfl

theorem createTask_count {c : CreateTaskCmd} {n : Nat} (h : db.createTask g c = .ok (db', n)) :
    n = if db.tasks.any (fun r => r.id == c.id) then 0 else 1 := by
  rcases (createTask_ok h).2 with ⟨ha, _, rfl⟩ | ⟨ha, _, rfl⟩
  · exact (if_pos ha).symm
  · exact (if_neg ha).symm

theorem exec_createTask {c : CreateTaskCmd} (h : db.exec g (.createTask c) = .ok (db', r)) :
    ∃ n, db.createTask g c = .ok (db', n) ∧ r = .rows n := by
  rw [Db.exec] at h
  split at h
  · cases h; exact ⟨_, ‹_›, rfl⟩
  · cases h

theorem exec_createTasks {c : CreateTasksCmd} (h : db.exec g (.createTasks c) = .ok (db', r)) :
    ∃ ts s n, insertTasksFrom g c ((db.callbacks.filter (g.taskInsertAll_where c)).mergeSort cbOrdLe) db.tasks db.seqT = .ok (ts, s, n) ∧
      db' = { db with tasks := ts, seqT := s } ∧ r = .rows n := by
  rw [Db.exec] at h
  split at h
  · cases h; exact ⟨_, _, _, ‹_›, rfl, rfl⟩
  · cases h

/-- the promise is created first; the task only if the promise was new -/
theorem exec_createPromiseAndTask {c : CreatePromiseAndTaskCmd} (h : db.exec g (.createPromiseAndTask c) = .ok (db', r)) :
    db.promises.any (fun r => r.id == c.promiseCommand.id) = true ∧ db' = (db.createPromise g c.promiseCommand).1 ∧ r = .rows2 0 0 ∨
    ¬ db.promises.any (fun r => r.id == c.promiseCommand.id) = true ∧
      ∃ m, (db.createPromise g c.promiseCommand).1.createTask g c.taskCommand = .ok (db', m) ∧ r = .rows2 1 m := by
  simp only [Db.exec, createPromise_count] at h
  by_cases ha : db.promises.any (fun r => r.id == c.promiseCommand.id) = true
  · rw [if_pos ha, if_pos (by decide)] at h
    cases h; exact .inl ⟨ha, rfl, rfl⟩
  · rw [if_neg ha, if_neg (by decide)] at h
    split at h
    · rename_i hct; cases h; exact .inr ⟨ha, _, hct, rfl⟩
    · cases h

theorem createPromiseAndTask_promises {c : CreatePromiseAndTaskCmd} (h : db.exec g (.createPromiseAndTask c) = .ok (db', r)) :
    db'.promises = (db.createPromise g c.promiseCommand).1.promises ∧ db'.seqP = (db.createPromise g c.promiseCommand).1.seqP := by
  rcases exec_createPromiseAndTask h with ⟨_, rfl, _⟩ | ⟨_, _, hct, _⟩
  · exact ⟨rfl, rfl⟩
  · rcases (createTask_ok hct).2 with ⟨_, rfl, _⟩ | ⟨_, rfl, _⟩ <;> exact ⟨rfl, rfl⟩

/-! `c.wX = true`: command `c` can write table X (P promises, C callbacks, S schedules, L locks, T tasks) -/

def Cmd.wP : Cmd → Bool
  | .createPromise _ | .updatePromise _ | .createPromiseAndTask _ => true
  | _ => false
def Cmd.wC : Cmd → Bool
  | .createCallback _ | .deleteCallbacks _ => true
  | _ => false
def Cmd.wS : Cmd → Bool
  | .createSchedule _ | .updateSchedule _ | .deleteSchedule _ => true
  | _ => false
def Cmd.wL : Cmd → Bool
  | .acquireLock _ | .releaseLock _ | .heartbeatLocks _ | .timeoutLocks _ => true
  | _ => false
def Cmd.wT : Cmd → Bool
  | .createTask _ | .createTasks _ | .completeTasks _ | .updateTask _ | .heartbeatTasks _ | .createPromiseAndTask _ => true
  | _ => false

/-- A table the command cannot write, and that table's sequence, are after the command what they were before.  Read it field by
    field: `congrArg Db.locks (exec_frame h)` is `db'.locks = bif cmd.wL then db'.locks else db.locks`, that is `db'.locks = db.locks`
    once `cmd` is a command that cannot write locks.  Every case is closed by `rfl`: unfolding checks the five `wX` against the model. -/
theorem exec_frame {cmd : Cmd} (h : db.exec g cmd = .ok (db', r)) :
    db' = { promises := bif cmd.wP then db'.promises else db.promises, seqP := bif cmd.wP then db'.seqP else db.seqP,
            callbacks := bif cmd.wC then db'.callbacks else db.callbacks,
            schedules := bif cmd.wS then db'.schedules else db.schedules, seqS := bif cmd.wS then db'.seqS else db.seqS,
            locks := bif cmd.wL then db'.locks else db.locks,
            tasks := bif cmd.wT then db'.tasks else db.tasks, seqT := bif cmd.wT then db'.seqT else db.seqT } := by
  cases cmd with
  | readPromise c | readPromises c | readSchedule c | readSchedules c | readTask c | readEnqueueableTasks c | readLock c
  | deleteCallbacks c | updateSchedule c | deleteSchedule c | completeTasks c | heartbeatTasks c
  | releaseLock c | heartbeatLocks c | timeoutLocks c =>
    cases h; rfl
  | searchPromises c | searchSchedules c | readTasks c | updatePromise c | updateTask c =>
    cases (ite_error_eq_ok.mp h).2; rfl
  | createCallback c | createSchedule c | acquireLock c =>
    rcases ite_ok_eq_ok.mp h with ⟨_, h⟩ | ⟨_, h⟩ <;> cases h <;> rfl
  | createPromise c =>
    cases h; exact createPromise_frame g db c
  | createTask c =>
    obtain ⟨_, hct, _⟩ := exec_createTask h
    exact createTask_frame hct
  | createTasks c =>
    obtain ⟨_, _, _, _, rfl, _⟩ := exec_createTasks h
    rfl
  | createPromiseAndTask c =>
    rcases exec_createPromiseAndTask h with ⟨_, rfl, _⟩ | ⟨_, _, hct, _⟩
    · rw [createPromise_frame g db c.promiseCommand]; rfl
    · rw [createTask_frame hct, createPromise_frame g db c.promiseCommand]; rfl

/-- What one successful command can do to the promises table (and its sequence): nothing, INSERT a row whose id is
    new, or the one UPDATE, with a completed state.  Every fact about the promises table under arbitrary commands
    (`PromMono`, `PromIds`, `PromSorted`, `Keys.states`) is a case analysis over these three. -/
inductive PromStep (g : SqlDefs) (db : Db) (cmd : Cmd) (db' : Db) : Prop
  | same (hp : db'.promises = db.promises) (hs : db.seqP ≤ db'.seqP)
  | insert (c : CreatePromiseCmd) (hnew : ∀ r ∈ db.promises, r.id ≠ c.id)
      (hp : db'.promises = db.promises ++ [g.promiseInsert_row c (db.seqP + 1)]) (hs : db'.seqP = db.seqP + 1)
  | complete (c : UpdatePromiseCmd) (hcmd : cmd = .updatePromise c) (hok : promiseStateOk c.state = true)
      (hp : db'.promises = updateWhere (g.promiseUpdate_where c) (g.promiseUpdate_set c) db.promises) (hs : db'.seqP = db.seqP)

theorem PromStep.of_createPromise {cmd : Cmd} (c : CreatePromiseCmd)
    (hp : db'.promises = (db.createPromise g c).1.promises) (hs : db'.seqP = (db.createPromise g c).1.seqP) :
    PromStep g db cmd db' := by
  by_cases h : ∃ r ∈ db.promises, r.id = c.id
  · rw [Db.createPromise_present g db c h] at hp hs
    exact .same hp (hs ▸ Nat.le_succ _)
  · rw [Db.createPromise_absent g db c fun r hr he => h ⟨r, hr, he⟩] at hp hs
    exact .insert c (fun r hr he => h ⟨r, hr, he⟩) hp hs

theorem exec_promises {cmd : Cmd} (h : db.exec g cmd = .ok (db', r)) :
    PromStep g db cmd db' := by
  have fp := congrArg Db.promises (exec_frame h)
  have fs := congrArg Db.seqP (exec_frame h)
  cases cmd with
  | createPromise c => cases h; exact .of_createPromise c rfl rfl
  | updatePromise c =>
    obtain ⟨hok, h⟩ := ite_error_eq_ok.mp h
    cases h; exact .complete c rfl (by simpa using hok) rfl rfl
  | createPromiseAndTask c =>
    exact .of_createPromise c.promiseCommand (createPromiseAndTask_promises h).1 (createPromiseAndTask_promises h).2
  | _ => exact .same fp (Nat.le_of_eq fs.symm)

inductive CbStep (g : SqlDefs) (db : Db) (cmd : Cmd) (db' : Db) : Prop
  | same (hc : db'.callbacks = db.callbacks)
  | insert (c : CreateCallbackCmd) (hcmd : cmd = .createCallback c) (hg : g.callbackInsert_guard c db = true)
      (hc : db'.callbacks = db.callbacks ++ [g.callbackInsert_row c])
  | delete (c : DeleteCallbacksCmd) (hc : db'.callbacks = db.callbacks.filter fun r => !g.callbackDelete_where c r)

theorem exec_callbacks {cmd : Cmd} (h : db.exec g cmd = .ok (db', r)) :
    CbStep g db cmd db' := by
  have f := congrArg Db.callbacks (exec_frame h)
  cases cmd with
  | createCallback c =>
    rcases ite_ok_eq_ok.mp h with ⟨hg, h⟩ | ⟨_, h⟩ <;> cases h
    · exact .insert c rfl hg rfl
    · exact .same rfl
  | deleteCallbacks c => cases h; exact .delete c rfl
  | _ => exact .same f

inductive SchedStep (g : SqlDefs) (db db' : Db) : Prop
  | same (hs : db'.schedules = db.schedules)
  | insert (c : CreateScheduleCmd) (hnew : ∀ r ∈ db.schedules, r.id ≠ c.id)
      (hs : db'.schedules = db.schedules ++ [g.scheduleInsert_row c (db.seqS + 1)])
  | update (c : UpdateScheduleCmd)
      (hs : db'.schedules = updateWhere (g.scheduleUpdate_where c) (g.scheduleUpdate_set c) db.schedules)
  | delete (c : DeleteScheduleCmd) (hs : db'.schedules = db.schedules.filter fun r => !g.scheduleDelete_where c r)

theorem exec_schedules {cmd : Cmd} (h : db.exec g cmd = .ok (db', r)) :
    SchedStep g db db' := by
  have f := congrArg Db.schedules (exec_frame h)
  cases cmd with
  | createSchedule c =>
    rcases ite_ok_eq_ok.mp h with ⟨_, h⟩ | ⟨hnew, h⟩ <;> cases h
    · exact .same rfl
    · exact .insert c (not_any_key.mp hnew) rfl
  | updateSchedule c => cases h; exact .update c rfl
  | deleteSchedule c => cases h; exact .delete c rfl
  | _ => exact .same f

/-- `release` and `timeout` name the command they come from, so a hypothesis on the command (`C09.Admissible`) can be used -/
inductive LockStep (g : SqlDefs) (db : Db) (cmd : Cmd) (db' : Db) : Prop
  | same (hl : db'.locks = db.locks)
  | insert (c : AcquireLockCmd) (hnew : ∀ r ∈ db.locks, r.resourceId ≠ (g.lockAcquire_row c).resourceId)
      (hl : db'.locks = db.locks ++ [g.lockAcquire_row c])
  | reacquire (c : AcquireLockCmd)
      (hl : db'.locks = updateWhere
        (fun r => r.resourceId == (g.lockAcquire_row c).resourceId && g.lockAcquire_conflictWhere r (g.lockAcquire_row c))
        (fun r => g.lockAcquire_conflictSet r (g.lockAcquire_row c)) db.locks)
  | heartbeat (c : HeartbeatLocksCmd)
      (hl : db'.locks = updateWhere (g.lockHeartbeat_where c) (g.lockHeartbeat_set c) db.locks)
  | release (c : ReleaseLockCmd) (hc : cmd = .releaseLock c) (hl : db'.locks = db.locks.filter fun r => !g.lockRelease_where c r)
  | timeout (c : TimeoutLocksCmd) (hc : cmd = .timeoutLocks c) (hl : db'.locks = db.locks.filter fun r => !g.lockTimeout_where c r)

theorem exec_locks {cmd : Cmd} (h : db.exec g cmd = .ok (db', r)) :
    LockStep g db cmd db' := by
  have f := congrArg Db.locks (exec_frame h)
  cases cmd with
  | acquireLock c =>
    rcases ite_ok_eq_ok.mp h with ⟨_, h⟩ | ⟨hnew, h⟩ <;> cases h
    · exact .reacquire c rfl
    · exact .insert c (not_any_key.mp hnew) rfl
  | releaseLock c => cases h; exact .release c rfl rfl
  | heartbeatLocks c => cases h; exact .heartbeat c rfl
  | timeoutLocks c => cases h; exact .timeout c rfl rfl
  | _ => exact .same f

inductive TaskStep (g : SqlDefs) (db : Db) (cmd : Cmd) (db' : Db) : Prop
  | same (ht : db'.tasks = db.tasks)
  | insert (c : CreateTaskCmd) (hcmd : cmd = .createTask c ∨ ∃ pc, cmd = .createPromiseAndTask ⟨pc, c⟩)
      (hst : c.state = 1 ∨ c.state = 4) (hnew : ∀ r ∈ db.tasks, r.id ≠ c.id)
      (ht : db'.tasks = db.tasks ++ [g.taskInsert_row c (db.seqT + 1)])
  | insertAll (c : CreateTasksCmd) (s n : Nat)
      (ht : insertTasksFrom g c ((db.callbacks.filter (g.taskInsertAll_where c)).mergeSort cbOrdLe) db.tasks db.seqT
        = .ok (db'.tasks, s, n))
  | complete (c : CompleteTasksCmd)
      (ht : db'.tasks = updateWhere (g.taskCompleteByRootId_where c) (g.taskCompleteByRootId_set c) db.tasks)
  | update (c : UpdateTaskCmd) (hcmd : cmd = .updateTask c)
      (ht : db'.tasks = updateWhere (g.taskUpdate_where c) (g.taskUpdate_set c) db.tasks)
  | heartbeat (c : HeartbeatTasksCmd)
      (ht : db'.tasks = updateWhere (g.taskHeartbeat_where c) (g.taskHeartbeat_set c) db.tasks)

theorem TaskStep.of_createTask {db1 : Db} {cmd : Cmd} {c : CreateTaskCmd} {n : Nat}
    (hcmd : cmd = .createTask c ∨ ∃ pc, cmd = .createPromiseAndTask ⟨pc, c⟩)
    (h1 : db1.tasks = db.tasks) (h2 : db1.seqT = db.seqT) (h : db1.createTask g c = .ok (db', n)) : TaskStep g db cmd db' := by
  obtain ⟨hst, ⟨_, rfl, _⟩ | ⟨hnew, rfl, _⟩⟩ := createTask_ok h
  · exact .same h1
  · exact .insert c hcmd hst (h1 ▸ not_any_key.mp hnew) (by rw [← h1, ← h2])

theorem exec_tasks {cmd : Cmd} (h : db.exec g cmd = .ok (db', r)) :
    TaskStep g db cmd db' := by
  have f := congrArg Db.tasks (exec_frame h)
  cases cmd with
  | createTask c =>
    obtain ⟨_, hct, _⟩ := exec_createTask h
    exact .of_createTask (.inl rfl) rfl rfl hct
  | createPromiseAndTask c =>
    have ft := congrArg Db.tasks (createPromise_frame g db c.promiseCommand)
    have fs := congrArg Db.seqT (createPromise_frame g db c.promiseCommand)
    rcases exec_createPromiseAndTask h with ⟨_, rfl, _⟩ | ⟨_, _, hct, _⟩
    · exact .same ft
    · exact .of_createTask (.inr ⟨_, rfl⟩) ft fs hct
  | createTasks c =>
    obtain ⟨_, _, _, hins, rfl, _⟩ := exec_createTasks h
    exact .insertAll c _ _ hins
  | completeTasks c => cases h; exact .complete c rfl
  | updateTask c => cases (ite_error_eq_ok.mp h).2; exact .update c rfl rfl
  | heartbeatTasks c => cases h; exact .heartbeat c rfl
  | _ => exact .same f

/-- The result of a successful command, as a function of the database it ran on: the selected rows of a read, the
    number of rows written of a write (`exec_res`). -/
def Db.resOf (g : SqlDefs) (db : Db) : Cmd → Res
  | .readPromise c => .promises (((db.promises.filter (g.promiseSelect_where c)).take 1).map g.promiseSelect_proj)
  | .readPromises c =>
      .promises ((takeLimit (g.promiseSelectAll_limit c) (db.promises.filter (g.promiseSelectAll_where c))).map g.promiseSelectAll_proj)
  | .searchPromises c =>
      .promises ((takeLimit (g.promiseSearch_limit c) (db.promises.filter (g.promiseSearch_where c)).reverse).map g.promiseSearch_proj)
  | .readSchedule c => .schedules (((db.schedules.filter (g.scheduleSelect_where c)).take 1).map g.scheduleSelect_proj)
  | .readSchedules c =>
      .schedules ((takeLimit (g.scheduleSelectAll_limit c)
        ((db.schedules.filter (g.scheduleSelectAll_where c)).mergeSort schedOrdLe)).map g.scheduleSelectAll_proj)
  | .searchSchedules c =>
      .schedules ((takeLimit (g.scheduleSearch_limit c) (db.schedules.filter (g.scheduleSearch_where c)).reverse).map g.scheduleSearch_proj)
  | .readTask c => .tasks (((db.tasks.filter (g.taskSelect_where c)).take 1).map g.taskSelect_proj)
  | .readEnqueueableTasks c =>
      .tasks ((takeLimit (g.taskSelectEnqueueable_limit c)
        (firstPerRoot ((db.tasks.filter (g.taskSelectEnqueueable_where c db)).mergeSort taskOrdLe))).map g.taskSelectEnqueueable_proj)
  | .readTasks c =>
      .tasks ((takeLimit (g.taskSelectAll_limit c) ((db.tasks.filter (g.taskSelectAll_where c)).mergeSort taskOrdLe)).map g.taskSelectAll_proj)
  | .readLock c => .locks (((db.locks.filter (g.lockRead_where c)).take 1).map g.lockRead_proj)
  | .createPromise c => .rows (if db.promises.any (fun r => r.id == c.id) then 0 else 1)
  | .updatePromise c => .rows (countP (g.promiseUpdate_where c) db.promises)
  | .createCallback c => .rows (if g.callbackInsert_guard c db then 1 else 0)
  | .deleteCallbacks c => .rows (countP (g.callbackDelete_where c) db.callbacks)
  | .createSchedule c => .rows (if db.schedules.any (fun r => r.id == c.id) then 0 else 1)
  | .updateSchedule c => .rows (countP (g.scheduleUpdate_where c) db.schedules)
  | .deleteSchedule c => .rows (countP (g.scheduleDelete_where c) db.schedules)
  | .createTask c => .rows (if db.tasks.any (fun r => r.id == c.id) then 0 else 1)
  | .createTasks c => .rows (countP (g.taskInsertAll_where c) db.callbacks)
  | .completeTasks c => .rows (countP (g.taskCompleteByRootId_where c) db.tasks)
  | .updateTask c => .rows (countP (g.taskUpdate_where c) db.tasks)
  | .heartbeatTasks c => .rows (countP (g.taskHeartbeat_where c) db.tasks)
  | .createPromiseAndTask c =>
      if db.promises.any (fun r => r.id == c.promiseCommand.id) then .rows2 0 0
      else .rows2 1 (if db.tasks.any (fun r => r.id == c.taskCommand.id) then 0 else 1)
  | .acquireLock c =>
      .rows (if db.locks.any (fun r => r.resourceId == (g.lockAcquire_row c).resourceId) then
        countP (fun r => r.resourceId == (g.lockAcquire_row c).resourceId && g.lockAcquire_conflictWhere r (g.lockAcquire_row c)) db.locks
      else 1)
  | .releaseLock c => .rows (countP (g.lockRelease_where c) db.locks)
  | .heartbeatLocks c => .rows (countP (g.lockHeartbeat_where c) db.locks)
  | .timeoutLocks c => .rows (countP (g.lockTimeout_where c) db.locks)

/-- `TASK_INSERT_ALL` on success: it reports one row per selected registration and appends one task per registration, in
    order, nothing else touched; each new id was unused, among the stored tasks and among the rows inserted before it -/
theorem insertTasksFrom_ok {c : CreateTasksCmd} :
    ∀ {cbs : List CallbackRow} {tasks ts : List TaskRow} {seq s n : Nat}, insertTasksFrom g c cbs tasks seq = .ok (ts, s, n) →
      n = cbs.length ∧ ∃ rows, ts = tasks ++ rows ∧ Forall2 (fun cb row => ∃ k, row = g.taskInsertAll_row c cb k) cbs rows ∧
        (∀ row ∈ rows, ∀ t ∈ tasks, t.id ≠ row.id) ∧ rows.Pairwise (fun a b => a.id ≠ b.id) := by
  intro cbs
  induction cbs with
  | nil =>
    intro tasks ts seq s n h
    simp [insertTasksFrom] at h
    exact ⟨h.2.2.symm, [], by simp [h.1], .nil, by simp, .nil⟩
  | cons cb rest ih =>
    intro tasks ts seq s n h
    simp only [insertTasksFrom] at h
    split at h
    · cases h
    · rename_i hany
      split at h
      · rename_i h2
        cases h
        -- the head registration's id was free (`hany`); the rest are inserted after its row, so they are fresh against it too
        obtain ⟨hn, rows, hts, hf, hfresh, hpw⟩ := ih h2
        have hhead : ∀ b ∈ rows, (g.taskInsertAll_row c cb (seq + 1)).id ≠ b.id := fun b hb =>
          hfresh b hb _ (List.mem_append_right _ (List.mem_singleton.mpr rfl))
        refine ⟨by rw [hn, List.length_cons], _ :: rows, by simp [hts], .cons ⟨seq + 1, rfl⟩ hf, fun row hrow t ht => ?_,
          List.pairwise_cons.mpr ⟨hhead, hpw⟩⟩
        rcases List.mem_cons.mp hrow with rfl | hrow
        · exact not_any_key.mp hany t ht
        · exact hfresh row hrow t (List.mem_append_left _ ht)
      · cases h

theorem exec_res {cmd : Cmd} (h : db.exec g cmd = .ok (db', r)) : r = db.resOf g cmd := by
  cases cmd with
  | createTask c =>
    obtain ⟨_, hct, rfl⟩ := exec_createTask h
    exact congrArg Res.rows (createTask_count hct)
  | createTasks c =>
    obtain ⟨_, _, _, hins, _, rfl⟩ := exec_createTasks h
    rw [(insertTasksFrom_ok hins).1, List.length_mergeSort]; rfl
  | createPromise c => cases h; exact congrArg Res.rows (createPromise_count g db c)
  | createPromiseAndTask c =>
    have ft := congrArg Db.tasks (createPromise_frame g db c.promiseCommand)
    rw [Db.resOf]
    rcases exec_createPromiseAndTask h with ⟨ha, _, rfl⟩ | ⟨ha, _, hct, rfl⟩
    · rw [if_pos ha]
    · rw [if_neg ha, createTask_count hct, ft]
  | createCallback c | createSchedule c | acquireLock c =>
    rcases ite_ok_eq_ok.mp h with ⟨hc, h⟩ | ⟨hc, h⟩ <;> cases h
    · exact congrArg Res.rows (if_pos hc).symm
    · exact congrArg Res.rows (if_neg hc).symm
  | searchPromises c | searchSchedules c | readTasks c | updatePromise c | updateTask c =>
    cases (ite_error_eq_ok.mp h).2; rfl
  | _ => cases h; rfl

theorem exec_updatePromise {c : UpdatePromiseCmd} (h : db.exec g (.updatePromise c) = .ok (db', r)) :
    promiseStateOk c.state = true ∧
    db'.promises = updateWhere (g.promiseUpdate_where c) (g.promiseUpdate_set c) db.promises ∧
    r = .rows (countP (g.promiseUpdate_where c) db.promises) := by
  obtain ⟨hok, h⟩ := ite_error_eq_ok.mp h
  cases h
  exact ⟨by simpa using hok, rfl, rfl⟩

theorem exec_updateTask {c : UpdateTaskCmd} (h : db.exec g (.updateTask c) = .ok (db', r)) :
    db'.tasks = updateWhere (g.taskUpdate_where c) (g.taskUpdate_set c) db.tasks ∧
    r = .rows (countP (g.taskUpdate_where c) db.tasks) := by
  cases (ite_error_eq_ok.mp h).2
  exact ⟨rfl, rfl⟩

/-- **The completion block, table by table**: the guarded UPDATE of the promise, the UPDATE that finishes the tasks of the
    root, `TASK_INSERT_ALL` over the registrations as they stood (on the tasks as just updated), the DELETE of those
    registrations — and the four row counts. -/
theorem completeBlock_ok {c : UpdatePromiseCmd} {ct : CompleteTasksCmd} {cr : CreateTasksCmd}
    {dc : DeleteCallbacksCmd} {rs : List Res}
    (h : db.execTx g [.updatePromise c, .completeTasks ct, .createTasks cr, .deleteCallbacks dc] = .ok (db', rs)) :
    db'.promises = updateWhere (g.promiseUpdate_where c) (g.promiseUpdate_set c) db.promises ∧
    db'.callbacks = db.callbacks.filter (fun r => !g.callbackDelete_where dc r) ∧
    ∃ s n, insertTasksFrom g cr ((db.callbacks.filter (g.taskInsertAll_where cr)).mergeSort cbOrdLe)
        (updateWhere (g.taskCompleteByRootId_where ct) (g.taskCompleteByRootId_set ct) db.tasks) db.seqT = .ok (db'.tasks, s, n) ∧
      rs = [.rows (countP (g.promiseUpdate_where c) db.promises), .rows (countP (g.taskCompleteByRootId_where ct) db.tasks),
            .rows n, .rows (countP (g.callbackDelete_where dc) db.callbacks)] := by
  obtain ⟨db1, r1, _, e1, x1, rfl⟩ := execTx_cons_ok.mp h
  obtain ⟨db2, r2, _, e2, x2, rfl⟩ := execTx_cons_ok.mp x1
  obtain ⟨db3, r3, _, e3, x3, rfl⟩ := execTx_cons_ok.mp x2
  obtain ⟨db4, r4, _, e4, x4, rfl⟩ := execTx_cons_ok.mp x3
  obtain ⟨rfl, rfl⟩ := execTx_nil_ok.mp x4
  cases (ite_error_eq_ok.mp e1).2
  cases e2
  obtain ⟨_, _, n, hins, rfl, rfl⟩ := exec_createTasks e3
  cases e4
  exact ⟨rfl, rfl, _, n, hins, rfl⟩

theorem execTx_res {cs : List Cmd} {rs : List Res} (h : db.execTx g cs = .ok (db', rs)) :
    Forall2 (fun c r => ∃ dbi : Db, r = dbi.resOf g c) cs rs := by
  induction db, cs, db', rs, h using execTx_induct with
  | nil => exact .nil
  | cons h1 _ ih => exact .cons ⟨_, exec_res h1⟩ ih

end Resonate
