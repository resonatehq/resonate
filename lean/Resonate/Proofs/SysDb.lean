/-
  Proofs/SysDb.lean — the database of a running system changes only through store batches
  (all-or-nothing), so every reflexive-transitive relation that every single command respects holds
  between the databases of any two states along any run — across every interleaving, failure and crash.
-/
import Resonate.Proofs.KernelEq
namespace Resonate

theorem crash_db (s : Sys) : (s.step .crash).1.db = s.db := rfl

theorem run_g (cs : List Choice) (s : Sys) : (s.run cs).g = s.g := by
  induction cs generalizing s with
  | nil => rfl
  | cons c cs ih => exact (ih _).trans (step_g s c)

theorem run_rel (R : Db → Db → Prop) (hr : ∀ db, R db db) (ht : ∀ a b c, R a b → R b c → R a c) (s : Sys)
    (hstep : ∀ db db' c r, db.exec s.g c = .ok (db', r) → R db db') :
    ∀ (cs : List Choice), R s.db (s.run cs).db := by
  intro cs
  induction cs generalizing s with
  | nil => exact hr _
  | cons c cs ih =>
    have h1 : R s.db (s.step c).1.db := by
      rcases step_db s c with h | ⟨items, _, h⟩
      · rw [h]; exact hr _
      · rw [h]; exact execBatch_lift s.g R hr ht hstep s.db _
    exact ht _ _ _ h1 (ih (s.step c).1 (by rw [step_g]; exact hstep))

theorem run_inv (I : Db → Prop) (s : Sys) (hstep : ∀ db db' c r, I db → db.exec s.g c = .ok (db', r) → I db')
    (cs : List Choice) (h : I s.db) : I (s.run cs).db :=
  run_rel (fun a b => I a → I b) (fun _ h => h) (fun _ _ _ h1 h2 h => h2 (h1 h)) s (fun db db' c r hx hi => hstep db db' c r hi hx) cs h

theorem run_append (s : Sys) (a b : List Choice) : s.run (a ++ b) = (s.run a).run b := List.foldl_append

end Resonate
