/-
  Proofs/Lift.lean — `Db.execTx` / `Db.execTxs` as relations (what a successful run is, induction over it), and
  lifting facts about one command to transactions, batches (with rollback) and arbitrary sequences of batches.
-/
import Resonate.Model.Store
namespace Resonate

variable {g : SqlDefs} {db db' : Db}

theorem execTx_nil_ok {rs : List Res} : db.execTx g [] = .ok (db', rs) ↔ db' = db ∧ rs = [] := by
  simp [Db.execTx, eq_comm]

theorem execTx_cons_ok {c : Cmd} {cs : List Cmd} {rs : List Res} : db.execTx g (c :: cs) = .ok (db', rs) ↔
    ∃ db1 r rs', db.exec g c = .ok (db1, r) ∧ db1.execTx g cs = .ok (db', rs') ∧ rs = r :: rs' := by
  constructor
  · intro h
    rw [Db.execTx] at h
    split at h
    · cases h
    · split at h
      · cases h
      · cases h; exact ⟨_, _, _, ‹_›, ‹_›, rfl⟩
  · rintro ⟨db1, r, rs', h1, h2, rfl⟩
    simp [Db.execTx, h1, h2]

theorem execTx_one {c : Cmd} {rs : List Res} (h : db.execTx g [c] = .ok (db', rs)) : ∃ r, db.exec g c = .ok (db', r) ∧ rs = [r] := by
  obtain ⟨_, r, _, h1, h2, rfl⟩ := execTx_cons_ok.mp h
  obtain ⟨rfl, rfl⟩ := execTx_nil_ok.mp h2
  exact ⟨r, h1, rfl⟩

theorem execTx_single {c : Cmd} {r : Res} (h : db.exec g c = .ok (db', r)) : db.execTx g [c] = .ok (db', [r]) :=
  execTx_cons_ok.mpr ⟨_, _, _, h, rfl, rfl⟩

theorem execTx_induct {motive : (db : Db) → (cs : List Cmd) → (db' : Db) → (rs : List Res) → db.execTx g cs = .ok (db', rs) → Prop}
    (nil : ∀ db, motive db [] db [] rfl)
    (cons : ∀ {db c db1 r cs db' rs} (h1 : db.exec g c = .ok (db1, r)) (h2 : db1.execTx g cs = .ok (db', rs)),
      motive db1 cs db' rs h2 → motive db (c :: cs) db' (r :: rs) (execTx_cons_ok.mpr ⟨_, _, _, h1, h2, rfl⟩)) :
    ∀ db cs db' rs h, motive db cs db' rs h
  | _, [], _, _, h => by obtain ⟨rfl, rfl⟩ := execTx_nil_ok.mp h; exact nil _
  | _, _ :: _, _, _, h => by
    obtain ⟨_, _, _, h1, h2, rfl⟩ := execTx_cons_ok.mp h
    exact cons h1 h2 (execTx_induct nil cons _ _ _ _ h2)

theorem execTx_append_ok {as bs : List Cmd} {rs : List Res} : db.execTx g (as ++ bs) = .ok (db', rs) ↔
    ∃ db1 r1 r2, db.execTx g as = .ok (db1, r1) ∧ db1.execTx g bs = .ok (db', r2) ∧ rs = r1 ++ r2 := by
  induction as generalizing db rs with
  | nil =>
    refine ⟨fun h => ⟨db, [], rs, rfl, h, rfl⟩, ?_⟩
    rintro ⟨_, _, _, h1, h2, rfl⟩
    obtain ⟨rfl, rfl⟩ := execTx_nil_ok.mp h1
    exact h2
  | cons a as ih =>
    -- both sides say: `a` on `db` gives `d1`, `as` on `d1` gives `d2`, `bs` on `d2` gives `db'`; only the bracketing differs
    simp only [List.cons_append, execTx_cons_ok, ih]
    constructor
    · rintro ⟨d1, r, _, h1, ⟨d2, r1, r2, h2, h3, rfl⟩, rfl⟩
      exact ⟨d2, r :: r1, r2, ⟨d1, r, r1, h1, h2, rfl⟩, h3, rfl⟩
    · rintro ⟨d2, _, r2, ⟨d1, r, r1, h1, h2, rfl⟩, h3, rfl⟩
      exact ⟨d1, r, _, h1, ⟨d2, r1, r2, h2, h3, rfl⟩, rfl⟩

theorem execTxs_nil_ok {rss : List (List Res)} : db.execTxs g [] = .ok (db', rss) ↔ db' = db ∧ rss = [] := by
  simp [Db.execTxs, eq_comm]

theorem execTxs_cons_ok {tx : List Cmd} {txs : List (List Cmd)} {rss : List (List Res)} :
    db.execTxs g (tx :: txs) = .ok (db', rss) ↔
    tx ≠ [] ∧ ∃ db1 rs rss', db.execTx g tx = .ok (db1, rs) ∧ db1.execTxs g txs = .ok (db', rss') ∧ rss = rs :: rss' := by
  constructor
  · intro h
    rw [Db.execTxs] at h
    split at h
    · cases h
    · split at h
      · cases h
      · split at h
        · cases h
        · cases h; exact ⟨by simpa using ‹¬ tx.isEmpty = true›, _, _, _, ‹_›, ‹_›, rfl⟩
  · rintro ⟨hne, db1, rs, rss', h1, h2, rfl⟩
    simp [Db.execTxs, h1, h2, hne]

theorem execTxs_induct {motive : (db : Db) → (txs : List (List Cmd)) → (db' : Db) → (rss : List (List Res)) →
      db.execTxs g txs = .ok (db', rss) → Prop}
    (nil : ∀ db, motive db [] db [] rfl)
    (cons : ∀ {db tx db1 rs txs db' rss} (hne : tx ≠ []) (h1 : db.execTx g tx = .ok (db1, rs))
      (h2 : db1.execTxs g txs = .ok (db', rss)),
      motive db1 txs db' rss h2 → motive db (tx :: txs) db' (rs :: rss) (execTxs_cons_ok.mpr ⟨hne, _, _, _, h1, h2, rfl⟩)) :
    ∀ db txs db' rss h, motive db txs db' rss h
  | _, [], _, _, h => by obtain ⟨rfl, rfl⟩ := execTxs_nil_ok.mp h; exact nil _
  | _, _ :: _, _, _, h => by
    obtain ⟨hne, _, _, _, h1, h2, rfl⟩ := execTxs_cons_ok.mp h
    exact cons hne h1 h2 (execTxs_induct nil cons _ _ _ _ h2)

theorem execTx_error {cs : List Cmd} {e : StoreErr} (h : db.execTx g cs = .error e) :
    ∃ c ∈ cs, ∃ db1 : Db, db1.exec g c = .error e := by
  induction cs generalizing db with
  | nil => cases h
  | cons c cs ih =>
    rw [Db.execTx] at h
    split at h
    · cases h; exact ⟨c, List.mem_cons_self .., db, ‹_›⟩
    · split at h
      · cases h
        obtain ⟨c', hc', hx⟩ := ih ‹_›
        exact ⟨c', List.mem_cons_of_mem _ hc', hx⟩
      · cases h

theorem execTxs_error {txs : List (List Cmd)} {e : StoreErr} (h : db.execTxs g txs = .error e) :
    [] ∈ txs ∨ ∃ tx ∈ txs, ∃ db1 : Db, db1.execTx g tx = .error e := by
  induction txs generalizing db with
  | nil => cases h
  | cons tx txs ih =>
    rw [Db.execTxs] at h
    split at h
    · exact .inl (by simp_all)
    · split at h
      · cases h; exact .inr ⟨tx, List.mem_cons_self .., db, ‹_›⟩
      · split at h
        · cases h
          rcases ih ‹_› with h0 | ⟨tx', htx', hx⟩
          · exact .inl (List.mem_cons_of_mem _ h0)
          · exact .inr ⟨tx', List.mem_cons_of_mem _ htx', hx⟩
        · cases h

/-- **The lifting lemma.**  An invariant kept by every command of `cs` (which may also say something, `Q`, of each
    result) is kept by the transaction.  A relation `R` that is reflexive and transitive is the invariant `R db0 ·`. -/
theorem execTx_inv {I : Db → Prop} {Q : Res → Prop} {cs : List Cmd} {rs : List Res}
    (step : ∀ c ∈ cs, ∀ {db db' r}, I db → db.exec g c = .ok (db', r) → I db' ∧ Q r)
    (hi : I db) (h : db.execTx g cs = .ok (db', rs)) : I db' ∧ ∀ r ∈ rs, Q r := by
  induction db, cs, db', rs, h using execTx_induct with
  | nil => exact ⟨hi, by simp⟩
  | cons h1 _ ih =>
    have h1 := step _ (List.mem_cons_self ..) hi h1
    have h2 := ih (fun c hc => step c (List.mem_cons_of_mem _ hc)) h1.1
    exact ⟨h2.1, by simpa using ⟨h1.2, h2.2⟩⟩

theorem execTx_inv_db {I : Db → Prop} {cs : List Cmd} {rs : List Res}
    (step : ∀ c ∈ cs, ∀ {db db' r}, I db → db.exec g c = .ok (db', r) → I db') (hi : I db) (h : db.execTx g cs = .ok (db', rs)) : I db' :=
  (execTx_inv (Q := fun _ => True) (fun c hc _ _ _ hi hx => ⟨step c hc hi hx, trivial⟩) hi h).1

theorem execTxs_inv {I : Db → Prop} {Q : List Res → Prop} {txs : List (List Cmd)} {rss : List (List Res)}
    (step : ∀ tx ∈ txs, ∀ {db db' rs}, I db → db.execTx g tx = .ok (db', rs) → I db' ∧ Q rs)
    (hi : I db) (h : db.execTxs g txs = .ok (db', rss)) : I db' ∧ ∀ rs ∈ rss, Q rs := by
  induction db, txs, db', rss, h using execTxs_induct with
  | nil => exact ⟨hi, by simp⟩
  | cons _ h1 _ ih =>
    have h1 := step _ (List.mem_cons_self ..) hi h1
    have h2 := ih (fun c hc => step c (List.mem_cons_of_mem _ hc)) h1.1
    exact ⟨h2.1, by simpa using ⟨h1.2, h2.2⟩⟩

theorem execBatch_inv {I : Db → Prop} {txs : List (List Cmd)}
    (step : ∀ tx ∈ txs, ∀ {db db' rs}, I db → db.execTx g tx = .ok (db', rs) → I db') (hi : I db) :
    I (db.execBatch g txs).1 := by
  unfold Db.execBatch
  split
  · exact (execTxs_inv (Q := fun _ => True) (fun tx htx _ _ _ hi hx => ⟨step tx htx hi hx, trivial⟩) hi ‹_›).1
  · exact hi

/-- the database after a sequence of batches (each all-or-nothing) -/
def Db.execBatches (g : SqlDefs) (db : Db) (bs : List (List (List Cmd))) : Db :=
  bs.foldl (fun db b => (db.execBatch g b).1) db

theorem execBatches_inv_tx {I : Db → Prop} {bs : List (List (List Cmd))}
    (step : ∀ b ∈ bs, ∀ tx ∈ b, ∀ {db db' rs}, I db → db.execTx g tx = .ok (db', rs) → I db') (hi : I db) :
    I (db.execBatches g bs) := by
  induction bs generalizing db with
  | nil => exact hi
  | cons b bs ih =>
    exact ih (fun b' hb' => step b' (List.mem_cons_of_mem _ hb')) (execBatch_inv (step b (List.mem_cons_self ..)) hi)

theorem execBatches_inv (g : SqlDefs) (I : Db → Prop)
    (hstep : ∀ db db' c r, I db → db.exec g c = .ok (db', r) → I db')
    (bs : List (List (List Cmd))) (db : Db) (h : I db) : I (db.execBatches g bs) :=
  execBatches_inv_tx (fun _ _ _ _ _ _ _ hi hx =>
    execTx_inv_db (fun c _ _ _ _ hi hx => hstep _ _ c _ hi hx) hi hx) h

section relational
variable (g) (R : Db → Db → Prop) (hr : ∀ db, R db db) (ht : ∀ a b c, R a b → R b c → R a c)
include hr ht

theorem execTx_lift (hstep : ∀ db db' c r, db.exec g c = .ok (db', r) → R db db')
    (cs : List Cmd) (db db' : Db) (rs : List Res) (h : db.execTx g cs = .ok (db', rs)) : R db db' :=
  execTx_inv_db (fun c _ _ _ _ hi hx => ht _ _ _ hi (hstep _ _ c _ hx)) (hr db) h

theorem execBatch_lift (hstep : ∀ db db' c r, db.exec g c = .ok (db', r) → R db db')
    (db : Db) (txs : List (List Cmd)) : R db (db.execBatch g txs).1 :=
  execBatch_inv (fun tx _ _ _ _ hi hx => ht _ _ _ hi (execTx_lift g R hr ht hstep tx _ _ _ hx)) (hr db)

end relational

end Resonate
