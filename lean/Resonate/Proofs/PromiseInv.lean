/-
  Proofs/PromiseInv.lean — the promises table under arbitrary store commands (no well-formedness
  assumption on the commands at all):
  `PromMono` — write-once completion, immutable creation fields, no promise ever disappears (C01).
  (Id uniqueness is Proofs/PromIds.lean, sort-id order `C14.PromSorted`.)
-/
import Resonate.Model.SqlSpec
import Resonate.Proofs.Guards
import Resonate.Proofs.Frame
namespace Resonate
open SqlSpec

/-- `b` is a legal later version of promise row `a` -/
def PromRowLe (a b : PromiseRow) : Prop :=
  a.id = b.id ∧ a.sortId = b.sortId ∧ a.paramHeaders = b.paramHeaders ∧ a.paramData = b.paramData ∧
  a.timeout = b.timeout ∧ a.idempotencyKeyForCreate = b.idempotencyKeyForCreate ∧ a.tags = b.tags ∧
  a.createdOn = b.createdOn ∧
  (a.state ≠ 1 → b = a) ∧
  (a.state = 1 → b = a ∨ promiseStateOk b.state = true)

theorem PromRowLe.refl (a : PromiseRow) : PromRowLe a a := by
  simp [PromRowLe]

theorem PromRowLe.final {a b : PromiseRow} (h : PromRowLe a b) (hs : a.state ≠ 1) : b = a := h.2.2.2.2.2.2.2.2.1 hs

theorem PromRowLe.pending {a b : PromiseRow} (h : PromRowLe a b) (hs : a.state = 1) : b = a ∨ promiseStateOk b.state = true :=
  h.2.2.2.2.2.2.2.2.2 hs

theorem promiseStateOk_ne_one {s : Nat} (h : promiseStateOk s = true) : s ≠ 1 := by
  intro h1; subst h1; simp [promiseStateOk] at h

theorem PromRowLe.trans {a b c : PromiseRow} (h1 : PromRowLe a b) (h2 : PromRowLe b c) : PromRowLe a c := by
  obtain ⟨i1, s1, ph1, pd1, t1, k1, g1, c1, n1, p1⟩ := h1
  obtain ⟨i2, s2, ph2, pd2, t2, k2, g2, c2, n2, p2⟩ := h2
  refine ⟨i1.trans i2, s1.trans s2, ph1.trans ph2, pd1.trans pd2, t1.trans t2, k1.trans k2, g1.trans g2, c1.trans c2, ?_, ?_⟩
  · intro h
    have hb := n1 h
    subst hb
    exact n2 h
  · intro h
    rcases p1 h with hb | hb
    · subst hb; exact p2 h
    · right
      have := n2 (promiseStateOk_ne_one hb)
      subst this; exact hb

/-- every promise of `l` is still there, at the same position, as a legal later version: `ListLe PromRowLe l l'`
    (Proofs/StoreBasics.lean) written out, so `ListLe.refl`, `.trans`, `.update` … apply by unfolding -/
def PromListLe (l l' : List PromiseRow) : Prop :=
  ∃ l1 l2, l' = l1 ++ l2 ∧ Forall2 PromRowLe l l1

/-- `PromMono db db'`: the promises table only ever grows, and existing rows only ever move from
    pending to exactly one completed state, keeping every creation field -/
def PromMono (db db' : Db) : Prop := PromListLe db.promises db'.promises

theorem PromMono.refl (db : Db) : PromMono db db := ListLe.refl PromRowLe.refl _
theorem PromMono.trans {a b c : Db} (h1 : PromMono a b) (h2 : PromMono b c) : PromMono a c := ListLe.trans (R := PromRowLe) (fun _ _ _ => PromRowLe.trans) h1 h2

/-- a stored promise id is stored in every later database -/
theorem promMono_has {a b : Db} (h : PromMono a b) {id : String} (ha : ∃ r ∈ a.promises, r.id = id) : ∃ r ∈ b.promises, r.id = id := by
  obtain ⟨r, hr, hid⟩ := ha
  obtain ⟨i, hi⟩ := List.getElem?_of_mem hr
  obtain ⟨r', hr', hle⟩ := ListLe.get h hi
  exact ⟨r', List.mem_of_getElem? hr', hle.1.symm.trans hid⟩

/-- pending rows with the addressed id take the command's completed state; every other row is untouched -/
theorem promMono_update (l : List PromiseRow) (c : UpdatePromiseCmd) (hs : promiseStateOk c.state = true) :
    PromListLe l (updateWhere (promiseUpdate_where c) (promiseUpdate_set c) l) := by
  refine ListLe.update PromRowLe.refl _ _ (fun a hw => ?_) l
  have hst : a.state = 1 := ((promiseUpdate_where_iff c a).mp hw).2
  exact ⟨rfl, rfl, rfl, rfl, rfl, rfl, rfl, rfl, fun h => absurd hst h, fun _ => .inr hs⟩

/-- **C01 / T1+T2.** Whatever single store command is executed — any of the 27 kinds, with any
    arguments, on any database — every promise that existed is still there with its creation fields
    intact, and a promise that was not pending is bit-for-bit identical. -/
theorem promMono_exec (d : Dialect) (db db' : Db) (cmd : Cmd) (r : Res)
    (h : db.exec (defs d) cmd = .ok (db', r)) : PromMono db db' := by
  unfold PromMono
  cases exec_promises h with
  | same hp _ => rw [hp]; exact ListLe.refl PromRowLe.refl _
  | insert c _ hp _ => rw [hp]; exact ListLe.append PromRowLe.refl _ _
  | complete c _ hok hp _ => rw [hp]; exact promMono_update _ c hok

end Resonate
