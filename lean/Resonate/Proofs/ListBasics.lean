/-
  Proofs/ListBasics.lean — facts about lists that mention nothing of the model: rows determined by a unique key, and the
  pointwise relation `Forall2` between two lists (core has no `Forall₂`).  The store layer, the kernel layer and the poll
  component (Properties/C18.lean) share them.
-/
namespace Resonate

theorem pairwise_snoc {α κ} (key : α → κ) (l : List α) (x : α)
    (h : List.Pairwise (fun a b => key a ≠ key b) l) (hx : ∀ a ∈ l, key a ≠ key x) :
    List.Pairwise (fun a b => key a ≠ key b) (l ++ [x]) := by
  rw [List.pairwise_append]
  exact ⟨h, List.pairwise_singleton _ _, fun a ha b hb => by rw [List.mem_singleton.mp hb]; exact hx a ha⟩

/-- with unique keys a row is determined by its key -/
theorem pairwise_unique {α κ} (key : α → κ) {l : List α} (h : List.Pairwise (fun a b => key a ≠ key b) l) {a b : α}
    (ha : a ∈ l) (hb : b ∈ l) (hab : key a = key b) : a = b :=
  -- `R a b := key a = key b → a = b` holds of `a, a`, and in both orders of every pair of the list (vacuously: the keys
  -- differ), hence of any two members
  List.Pairwise.forall_of_forall_of_flip (R := fun a b => key a = key b → a = b) (fun _ _ _ => rfl)
    (h.imp fun hne e => absurd e hne) (h.imp fun hne e => absurd e.symm hne) ha hb hab

inductive Forall2 {α β : Type} (R : α → β → Prop) : List α → List β → Prop
  | nil : Forall2 R [] []
  | cons {a b l1 l2} : R a b → Forall2 R l1 l2 → Forall2 R (a :: l1) (b :: l2)

theorem forall2_refl {α} {R : α → α → Prop} (hr : ∀ a, R a a) : ∀ l : List α, Forall2 R l l
  | [] => .nil
  | a :: l => .cons (hr a) (forall2_refl hr l)

theorem forall2_trans {α} {R : α → α → Prop} (ht : ∀ a b c, R a b → R b c → R a c)
    {l1 l2 l3 : List α} (h1 : Forall2 R l1 l2) (h2 : Forall2 R l2 l3) : Forall2 R l1 l3 := by
  induction h1 generalizing l3 with
  | nil => cases h2; exact .nil
  | cons hab _ ih => cases h2 with | cons hbc t2 => exact .cons (ht _ _ _ hab hbc) (ih t2)

theorem forall2_length {α β} {R : α → β → Prop} {l1 : List α} {l2 : List β} (h : Forall2 R l1 l2) : l1.length = l2.length := by
  induction h with
  | nil => rfl
  | cons _ _ ih => rw [List.length_cons, List.length_cons, ih]

theorem forall2_split {α} {R : α → α → Prop} {l1 m l2 : List α} (h : Forall2 R (l1 ++ l2) m) :
    ∃ m1 m2, m = m1 ++ m2 ∧ Forall2 R l1 m1 ∧ Forall2 R l2 m2 := by
  induction l1 generalizing m with
  | nil => exact ⟨[], m, rfl, .nil, h⟩
  | cons a l1 ih =>
    cases h with
    | cons hab ht =>
      obtain ⟨m1, m2, rfl, h1, h2⟩ := ih ht
      exact ⟨_ :: m1, m2, rfl, .cons hab h1, h2⟩

theorem forall2_mem_right {α β} {R : α → β → Prop} {l1 : List α} {l2 : List β} (h : Forall2 R l1 l2) :
    ∀ b ∈ l2, ∃ a ∈ l1, R a b := by
  induction h with
  | nil => nofun
  | cons hab _ ih =>
    intro b hb
    rcases List.mem_cons.mp hb with rfl | hb
    · exact ⟨_, List.mem_cons_self .., hab⟩
    · obtain ⟨a, ha, hr⟩ := ih b hb
      exact ⟨a, List.mem_cons_of_mem _ ha, hr⟩

theorem forall2_get {α β} {R : α → β → Prop} {l1 : List α} {l2 : List β} (h : Forall2 R l1 l2) :
    ∀ (i : Nat) (a : α), l1[i]? = some a → ∃ b, l2[i]? = some b ∧ R a b := by
  induction h with
  | nil => intro i a h; simp at h
  | cons hab _ ih =>
    intro i a h
    cases i with
    | zero => simp at h; subst h; exact ⟨_, by simp, hab⟩
    | succ i => simpa using ih i a (by simpa using h)

theorem forall2_mem_left {α β} {R : α → β → Prop} {l1 : List α} {l2 : List β} (h : Forall2 R l1 l2) {a : α} (ha : a ∈ l1) :
    ∃ b ∈ l2, R a b :=
  let ⟨i, hi⟩ := List.getElem?_of_mem ha
  let ⟨b, hb, hr⟩ := forall2_get h i a hi
  ⟨b, List.mem_of_getElem? hb, hr⟩

end Resonate
