/-
  Proofs/Converge.lean — progress measures of the background sweeps: one complete successful cycle of a sweep
  strictly decreases the number of items it is responsible for, by the batch size or to zero.

  A batch sweep reads up to `b` of the rows counted by its measure (`take_batch_spec`) and writes one update per row read,
  addressed by the row's unique key; each update takes its own row, and no other, out of the counted set
  (`countP_updateWhere_key`), so the measure drops by the number of rows read (`countP_sweep`).  The rest of the file says,
  table by table, what the sweeps' transactions do to their table and which rows their reads return.
-/
import Resonate.Model.Coroutines
import Resonate.Model.SqlSpec
import Resonate.Proofs.Guards
import Resonate.Proofs.PromIds
import Resonate.Proofs.StoreBasics
import Resonate.Proofs.Frame
import Resonate.Proofs.Lift
import Resonate.Proofs.TxShape
import Resonate.Properties.C10
namespace Resonate
open SqlSpec Coro

/-- an update whose WHERE pins the (unique) key to `k` hits at most one row (`countP_le_one`); if a counted row is hit, the
    count drops by exactly one -/
theorem countP_updateWhere_key {α κ : Type} (key : α → κ) (q p : α → Bool) (f : α → α) (k : κ)
    (hkey : ∀ a, p a = true → key a = k) (hq : ∀ a, p a = true → q (f a) = false)
    (l : List α) (hl : List.Pairwise (fun a b => key a ≠ key b) l) (hex : ∃ x ∈ l, p x = true ∧ q x = true) :
    countP q (updateWhere p f l) + 1 = countP q l := by
  have h1 : countP (fun a => p a && q a) l ≤ 1 := countP_le_one key _ k hl fun a h => hkey a (Bool.and_eq_true_iff.mp h).1
  have h2 : 0 < countP (fun a => p a && q a) l :=
    let ⟨x, hx, hpx, hqx⟩ := hex
    countP_pos.mpr ⟨x, hx, Bool.and_eq_true_iff.mpr ⟨hpx, hqx⟩⟩
  rw [← countP_updateWhere q p f hq l, Nat.le_antisymm h1 h2]

/-- **the progress measure of a sweep.**  A sweep reads rows with distinct keys and writes one keyed update per row
    (`p r` its WHERE, `f r` its SET).  If every update keeps keys, takes its row out of the set counted by `q`, and finds
    its row (selected and counted) in the table, then the count drops by exactly the number of rows read: each update hits
    its own row only, so the rows of the later updates are still as they were read. -/
theorem countP_sweep {α ρ κ : Type} (key : α → κ) (rk : ρ → κ) (q : α → Bool) (p : ρ → α → Bool) (f : ρ → α → α)
    (hkey : ∀ r a, p r a = true → key a = rk r) (hf : ∀ r a, key (f r a) = key a)
    (hq : ∀ r a, p r a = true → q (f r a) = false) :
    ∀ (rows : List ρ) (l : List α), List.Pairwise (fun a b => key a ≠ key b) l → List.Pairwise (fun a b => rk a ≠ rk b) rows →
    (∀ r ∈ rows, ∃ x ∈ l, p r x = true ∧ q x = true) →
    countP q (rows.foldl (fun l r => updateWhere (p r) (f r) l) l) + rows.length = countP q l := by
  intro rows
  induction rows with
  | nil => intro l _ _ _; rfl
  | cons r rows ih =>
    intro l hl hrows hall
    rw [List.pairwise_cons] at hrows
    rw [List.foldl_cons, List.length_cons,
      ← countP_updateWhere_key key q (p r) (f r) (rk r) (hkey r) (hq r) l hl (hall r List.mem_cons_self),
      ← ih _ (pairwise_updateWhere key (p r) (f r) l (hf r) hl) hrows.2 ?_]
    · rfl
    · intro r' hr'
      obtain ⟨x, hx, hpx, hqx⟩ := hall r' (List.mem_cons_of_mem _ hr')
      have hnx : p r x = false := Bool.eq_false_iff.mpr fun h => hrows.1 r' hr' ((hkey r x h).symm.trans (hkey r' x hpx))
      exact ⟨x, (mem_updateWhere _ _ l x).mpr ⟨x, hx, .inr ⟨hnx, rfl⟩⟩, hpx, hqx⟩

/-- **what a sweep reads**: `LIMIT b` of the rows counted by `q`, in whatever order `s` the store returns them, each
    projected by an `f` that keeps keys -/
theorem take_batch_spec {α κ : Type} (key : α → κ) (q : α → Bool) (l s : List α) (hs : s.Perm (l.filter q))
    (hl : List.Pairwise (fun a b => key a ≠ key b) l) (b : Nat) (f : α → α) (hf : ∀ x, key (f x) = key x) :
    ((takeLimit (b : Int) s).map f).length = min b (countP q l) ∧
    List.Pairwise (fun a b => key a ≠ key b) ((takeLimit (b : Int) s).map f) ∧
    ∀ r ∈ (takeLimit (b : Int) s).map f, ∃ x ∈ l, q x = true ∧ r = f x := by
  rw [takeLimit, if_neg (Int.not_lt.mpr (Int.natCast_nonneg b)), Int.toNat_natCast]
  refine ⟨by rw [List.length_map, List.length_take, hs.length_eq]; rfl, List.pairwise_map.mpr ?_,
    fun r hr => mem_select (fun y hy => hs.mem_iff.mp (List.mem_of_mem_take hy)) hr⟩
  simp only [hf]
  exact ((hs.pairwise_iff fun h => Ne.symm h).mpr (hl.sublist List.filter_sublist)).sublist (List.take_sublist _ _)

/-! ### promises past their timeout -/

def overdueP (t : Time) (r : PromiseRow) : Bool := r.state == 1 && decide (r.timeout ≤ t)

/-- promises still pending although their timeout has passed at clock `t` -/
def overdue (t : Time) (db : Db) : Nat := countP (overdueP t) db.promises

theorem execTxs_completeTxs_promises (d : Dialect) (t : Time) {ρ : Type} (cmd : ρ → UpdatePromiseCmd) :
    ∀ (rows : List ρ) (db db' : Db) (rss : List (List Res)),
    db.execTxs (defs d) (rows.map fun r => completeTx (cmd r) t) = .ok (db', rss) →
    db'.promises = rows.foldl (fun l r => updateWhere (promiseUpdate_where (cmd r)) (promiseUpdate_set (cmd r)) l) db.promises := by
  intro rows
  induction rows with
  | nil => intro db db' rss h; cases h; rfl
  | cons r rows ih =>
    intro db db' rss h
    obtain ⟨_, db1, rs, rss1, h1, h2, _⟩ := execTxs_cons_ok.mp h
    -- the completion block touches the promises table only through its guarded update
    rw [ih db1 db' rss1 h2, (completeBlock_ok (c := cmd r) h1).1]; rfl

/-- the transactions one time-out sweep submits for the rows it read -/
def sweepTxs (rows : List PromiseRow) (t : Time) : List (List Cmd) :=
  rows.map fun r => completeTx (timeoutCmd r.id r.toPromise) t

/-- the rows a sweep reads at clock `t` with batch size `b` -/
def sweepRows (d : Dialect) (db : Db) (t : Time) (b : Nat) : List PromiseRow :=
  (takeLimit ((defs d).promiseSelectAll_limit { time := t, limit := b }) (db.promises.filter ((defs d).promiseSelectAll_where { time := t, limit := b }))).map
    (defs d).promiseSelectAll_proj

/-- the rows read, with what `countP_sweep` asks of them -/
theorem sweepRows_spec (d : Dialect) (db : Db) (t : Time) (b : Nat) (hk : PromIds db) :
    (sweepRows d db t b).length = min b (overdue t db) ∧
    List.Pairwise (fun a b : PromiseRow => a.id ≠ b.id) (sweepRows d db t b) ∧
    ∀ r ∈ sweepRows d db t b, ∃ x ∈ db.promises, promiseUpdate_where (timeoutCmd r.id r.toPromise) x = true ∧ overdueP t x = true := by
  obtain ⟨h1, h2, h3⟩ := take_batch_spec PromiseRow.id (overdueP t) db.promises _ (List.Perm.refl _) hk b promiseSelectAll_proj fun _ => rfl
  refine ⟨h1, h2, fun r hr => ?_⟩
  obtain ⟨x, hx, hq, hrx⟩ := h3 r hr
  rw [hrx]
  exact ⟨x, hx, (promiseUpdate_where_iff _ x).mpr ⟨rfl, eq_of_beq (Bool.and_eq_true_iff.mp hq).1⟩, hq⟩

/-- one complete successful time-out cycle of the idle server at clock `t` with batch size `b` -/
def TimeoutCycle (d : Dialect) (t : Time) (b : Nat) (db db' : Db) : Prop :=
  ∃ rss, db.execTxs (defs d) (sweepTxs (sweepRows d db t b) t) = .ok (db', rss)

theorem promIds_execTxs (d : Dialect) (txs : List (List Cmd)) (db db' : Db) (rss : List (List Res))
    (h : db.execTxs (defs d) txs = .ok (db', rss)) (hk : PromIds db) : PromIds db' := by
  -- a successful `execTxs` is a batch that commits
  have := promIds_execBatches d [txs] db hk
  rwa [Db.execBatches, List.foldl_cons, List.foldl_nil, Db.execBatch, h] at this

/-! ### locks past their lease -/

def expiredLocks (t : Time) (db : Db) : Nat := countP (fun r : LockRow => decide (r.expiresAt ≤ t)) db.locks

/-! ### tasks past their lease or timeout -/

def lateT (t : Time) (r : TaskRow) : Bool := (r.state == 2 || r.state == 4) && (decide (r.expiresAt ≤ t) || decide (r.timeout ≤ t))

/-- enqueued or claimed tasks whose lease or own timeout has passed at clock `t` -/
def lateTasks (t : Time) (db : Db) : Nat := countP (lateT t) db.tasks

def TaskIds (db : Db) : Prop := List.Pairwise (fun a b : TaskRow => a.id ≠ b.id) db.tasks

theorem execTx_updateTasks_tasks (d : Dialect) {ρ : Type} (cmd : ρ → UpdateTaskCmd) :
    ∀ (rows : List ρ) (db db' : Db) (rs : List Res),
    db.execTx (defs d) (rows.map fun r => .updateTask (cmd r)) = .ok (db', rs) →
    db'.tasks = rows.foldl (fun l r => updateWhere (taskUpdate_where (cmd r)) (taskUpdate_set (cmd r)) l) db.tasks := by
  intro rows
  induction rows with
  | nil => intro db db' rs h; cases h; rfl
  | cons r rows ih =>
    intro db db' rs h
    obtain ⟨db1, r1, rs1, h1, h2, _⟩ := execTx_cons_ok.mp h
    rw [ih db1 db' rs1 h2, (exec_updateTask h1).1]; rfl

theorem taskUpdate_where_self (c : UpdateTaskCmd) (x : TaskRow) (hid : c.id = x.id) (hcs : c.currentStates = [x.state])
    (hcc : c.currentCounter = x.counter) (h0 : x.state ≠ 0) : taskUpdate_where c x = true := by
  -- the mask of the one state `x.state` is `x.state`, and `s &&& s = s`
  have hm : maskOf [x.state] = x.state := Nat.zero_or _
  exact (taskUpdate_where_iff c x).mpr ⟨hid.symm, by rw [hcs, hm, Nat.and_self]; exact h0, hcc.symm⟩

/-- `countP_sweep` for one transaction of task updates, one per row read, whatever set `q` counts -/
theorem task_updates_progress (d : Dialect) (q : TaskRow → Bool) (cmd : TaskRow → UpdateTaskCmd) (hid : ∀ r, (cmd r).id = r.id)
    (hq : ∀ r a, q (taskUpdate_set (cmd r) a) = false) (rows : List TaskRow) (db db' : Db) (rs : List Res)
    (hk : TaskIds db) (hp : List.Pairwise (fun a b : TaskRow => a.id ≠ b.id) rows)
    (hall : ∀ r ∈ rows, ∃ x ∈ db.tasks, taskUpdate_where (cmd r) x = true ∧ q x = true)
    (hx : db.execTx (defs d) (rows.map fun r => .updateTask (cmd r)) = .ok (db', rs)) :
    countP q db'.tasks + rows.length = countP q db.tasks := by
  rw [execTx_updateTasks_tasks d cmd rows db db' rs hx]
  exact countP_sweep (key := TaskRow.id) (rk := TaskRow.id) q (p := fun r => taskUpdate_where (cmd r)) (f := fun r => taskUpdate_set (cmd r))
    (hkey := fun r a h => ((taskUpdate_where_iff _ a).mp h).1.trans (hid r)) (hf := fun _ _ => rfl) (hq := fun r a _ => hq r a) rows _ hk hp hall

/-- the update the lease sweep writes for one row it read -/
def sweepTaskCmd (t : Time) (r : TaskRow) : UpdateTaskCmd :=
  if t < r.timeout then
    { id := r.id, processId := none, state := T_INIT, counter := r.counter + 1, attempt := 0, ttl := 0, expiresAt := 0, completedOn := none, currentStates := [r.state], currentCounter := r.counter }
  else
    { id := r.id, processId := none, state := T_TIMEDOUT, counter := r.counter, attempt := r.attempt, ttl := 0, expiresAt := 0, completedOn := some r.timeout, currentStates := [r.state], currentCounter := r.counter }

theorem sweepTaskCmd_guard (t : Time) (r : TaskRow) :
    (sweepTaskCmd t r).id = r.id ∧ (sweepTaskCmd t r).currentStates = [r.state] ∧ (sweepTaskCmd t r).currentCounter = r.counter := by
  unfold sweepTaskCmd; split <;> exact ⟨rfl, rfl, rfl⟩

theorem sweepTaskCmd_state (t : Time) (r : TaskRow) : (sweepTaskCmd t r).state = 1 ∨ (sweepTaskCmd t r).state = 16 := by
  unfold sweepTaskCmd; split
  · left; rfl
  · right; rfl

def LegalTaskStates (db : Db) : Prop := ∀ r ∈ db.tasks, r.state = 1 ∨ r.state = 2 ∨ r.state = 4 ∨ r.state = 8 ∨ r.state = 16

/-- the rows a lease sweep reads at clock `t` with batch size `b` -/
def sweepTaskRows (d : Dialect) (db : Db) (t : Time) (b : Nat) : List TaskRow :=
  (takeLimit ((defs d).taskSelectAll_limit { states := [T_ENQUEUED, T_CLAIMED], time := t, limit := b })
    ((db.tasks.filter ((defs d).taskSelectAll_where { states := [T_ENQUEUED, T_CLAIMED], time := t, limit := b })).mergeSort taskOrdLe)).map
    (defs d).taskSelectAll_proj

/-- on a row in a legal state the lease sweep's WHERE (a bit test against the mask of `enqueued`, `claimed`) is `lateT` -/
theorem taskSelectAll_where_late (t : Time) (b : Int) (r : TaskRow)
    (h : r.state = 1 ∨ r.state = 2 ∨ r.state = 4 ∨ r.state = 8 ∨ r.state = 16) :
    taskSelectAll_where { states := [T_ENQUEUED, T_CLAIMED], time := t, limit := b } r = lateT t r := by
  have hm : ((r.state &&& maskOf [T_ENQUEUED, T_CLAIMED]) != 0) = (r.state == 2 || r.state == 4) := by
    rcases h with h | h | h | h | h <;> rw [h] <;> rfl
  rw [taskSelectAll_where, hm]; rfl

theorem sweepTaskRows_spec (d : Dialect) (db : Db) (t : Time) (b : Nat) (hk : TaskIds db) (hl : LegalTaskStates db) :
    (sweepTaskRows d db t b).length = min b (lateTasks t db) ∧
    List.Pairwise (fun a b : TaskRow => a.id ≠ b.id) (sweepTaskRows d db t b) ∧
    ∀ r ∈ sweepTaskRows d db t b, ∃ x ∈ db.tasks, taskUpdate_where (sweepTaskCmd t r) x = true ∧ lateT t x = true := by
  have hfilt : db.tasks.filter ((defs d).taskSelectAll_where { states := [T_ENQUEUED, T_CLAIMED], time := t, limit := b }) = db.tasks.filter (lateT t) :=
    List.filter_congr fun r hr => taskSelectAll_where_late t b r (hl r hr)
  obtain ⟨h1, h2, h3⟩ := take_batch_spec TaskRow.id (lateT t) db.tasks _ (List.mergeSort_perm _ taskOrdLe) hk b taskSelectAll_proj fun _ => rfl
  unfold sweepTaskRows
  rw [hfilt]
  refine ⟨h1, h2, fun r hr => ?_⟩
  obtain ⟨x, hx, hq, hrx⟩ := h3 r hr
  rw [hrx]
  -- a late row is enqueued or claimed: its state is a non-empty mask
  have h0 : x.state ≠ 0 := by
    intro h; simp [lateT, h] at hq
  obtain ⟨g1, g2, g3⟩ := sweepTaskCmd_guard t (taskSelectAll_proj x)
  exact ⟨x, hx, taskUpdate_where_self _ x g1 g2 g3 h0, hq⟩

/-! ### schedules whose next run time is in the past -/

/-- how far a schedule is behind the clock (0 when its next run time is in the future) -/
def lagOf (t : Time) (r : ScheduleRow) : Nat := (t + 1 - r.nextRunTime).toNat

def lag (t : Time) (db : Db) : Nat := (db.schedules.map (lagOf t)).sum

theorem lagOf_lt (t : Time) (r r' : ScheduleRow) (hlt : r.nextRunTime < r'.nextRunTime) (hdue : r.nextRunTime ≤ t) :
    lagOf t r' < lagOf t r :=
  (Int.toNat_lt_toNat (Int.sub_pos_of_lt (Int.lt_add_one_of_le hdue))).mpr (Int.sub_lt_sub_left hlt _)

/-- the first step of the schedule sweep on the rows it read: one hand-off to the router per row for which
    `C10.firingItem` yields a (create, update) pair -/
theorem schedule_sweep_next (env : Env) (t0 t : Time) (rows : List ScheduleRow) :
    ∃ k, (schedulePromises env t0).next t [.store [.schedules rows]] =
      if rows.any (fun r => !(decide (r.nextRunTime ≤ t))) then .panic "schedulePromises: schedule next run time must have elapsed"
      else if (rows.filterMap (C10.firingItem env t)).isEmpty then .done none
      else .yield ((rows.filterMap (C10.firingItem env t)).map fun (pc, _) => .router (promiseOfCreate pc)) k :=
  ⟨_, rfl⟩

/-! ### tasks waiting to be dispatched -/

def isInit (r : TaskRow) : Bool := r.state == 1

/-- tasks still in state init -/
def initTasks (db : Db) : Nat := countP isInit db.tasks

/-- the update written for a dispatched task whose hand-off succeeded: guarded by `init` and the counter read; the two
    branches of `enqueueOutcomeCmd` differ in the state written only -/
def handedOffCmd (e : Int) (r : TaskRow) : UpdateTaskCmd :=
  { id := r.id, processId := none, state := if r.mesg.type == "notify" then T_COMPLETED else T_ENQUEUED, counter := r.counter,
    attempt := r.attempt, ttl := 0, expiresAt := e, completedOn := none, currentStates := [T_INIT], currentCounter := r.counter }

theorem enqueueOutcomeCmd_sent (e : Int) (r : TaskRow) : enqueueOutcomeCmd e r (.sender true) = .updateTask (handedOffCmd e r) := by
  unfold enqueueOutcomeCmd handedOffCmd
  by_cases h : (r.mesg.type == "notify") = true
  · rw [if_pos h, if_pos h]
  · rw [if_neg h, if_neg h]; rfl

end Resonate
