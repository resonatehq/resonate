/-
  Proofs/WInv.lean — from transactions to the whole system (DESIGN §3.4), generic in two directions, so that invariants
  which need to know something about the COMPLETIONS a coroutine is resumed with can be lifted to every run as well:

  * `W` — the shape of the transactions the coroutines yield (SysInv.lean is the instance `WfC`, every completion legal);
  * `L` — a predicate on completions ("legal") which every completion produced by a store batch on a database satisfying
    the invariant has; a coroutine's continuation only has to keep yielding `W`-transactions when it is resumed with
    legal completions (`AllYieldsL`).

  Result (`sysInv_run`): for any database predicate `I` such that every `W`-transaction executed on an `I`-database leaves
  an `I`-database and returns legal results, `I` holds of the database of EVERY state reachable by `Sys.step` — every
  workload of requests that passed state validation and of legal router / sender completions (`ChoiceOk`), every
  interleaving, batching, injected failure, queue / batch / pool configuration and crash point.
  Used by Proofs/SysInv.lean (`W := WfC`, every completion legal: C05) and Proofs/TaskRun.lean (task-state legality +
  `TaskMono`: C07).
-/
import Resonate.Proofs.KernelEq
import Resonate.Proofs.Tree
import Resonate.Proofs.TxShape
namespace Resonate.WInv

variable {W : List Cmd → Prop} {L : Cpl → Prop}

def ThreadOk (W : List Cmd → Prop) (L : Cpl → Prop) (th : Thread) : Prop :=
  AllYieldsL W L th.co ∧ (∀ t, AllYieldsL W L (th.restart t)) ∧ ∀ s ∈ th.slots, ∀ c, s.2 = some c → L c

def PendingOk (W : List Cmd → Prop) (p : List (SubId × Subm)) : Prop := ∀ x ∈ p, ∀ tx, x.2 = .store tx → W tx

structure SysInv (W : List Cmd → Prop) (L : Cpl → Prop) (I : Db → Prop) (s : Sys) : Prop where
  db : I s.db
  pending : PendingOk W s.pending
  threads : ∀ th ∈ s.threads, ThreadOk W L th
  apiQ : ∀ q ∈ s.apiQ, q.2.StateOk
  cq : ∀ e ∈ s.cq, L e.2

theorem threadOk_new (tid : String) (isBg : Option BgKind) (body : Time → Co) (h : ∀ t, AllYieldsL W L (body t)) :
    ThreadOk W L (newThread tid isBg body) := ⟨AllYieldsL.retry, h, by intro s hs; cases hs⟩

theorem threadOk_fillSlot (th : Thread) (seq : Nat) (c : Cpl) (hc : L c) (h : ThreadOk W L th) : ThreadOk W L (fillSlot th seq c) := by
  refine ⟨h.1, h.2.1, ?_⟩
  intro s hs c' hc'
  obtain ⟨s0, hs0, rfl⟩ := List.mem_map.mp hs
  split at hc'
  · simp only [Option.some.injEq] at hc'; subst hc'; exact hc
  · exact h.2.2 s0 hs0 c' hc'

theorem threadOk_resume (hLerr : L .err) (th th' : Thread) (t : Time) (h : ThreadOk W L th) (hr : th.resume? t = some th') : ThreadOk W L th' := by
  obtain ⟨subs, k, hco, rfl⟩ := resume?_eq_some hr
  refine ⟨?_, h.2.1, by intro s hs; cases hs⟩
  have hy := h.1
  rw [hco] at hy
  cases hy with
  | yield _ _ _ hk =>
    apply hk
    intro c hc
    obtain ⟨s, hs, rfl⟩ := List.mem_map.mp hc
    cases hsc : s.2 with
    | none => exact hLerr
    | some c' => exact h.2.2 s hs c' hsc

theorem run_ok (t : Time) (fuel : Nat) (th : Thread) (h : ThreadOk W L th) :
    (∀ x, (th.run t fuel).1 = some x → ThreadOk W L x) ∧ PendingOk W (th.run t fuel).2.2.1 := by
  -- the eight cases are listed at `run_tids` (Proofs/KernelEq.lean)
  fun_induction Thread.run th t fuel with
  | case1 th => exact ⟨fun x hx => (by injection hx with hx; exact hx ▸ h), fun _ hx => (by cases hx)⟩
  | case2 | case3 | case4 | case5 => exact ⟨fun _ hx => (by cases hx), fun _ hx => (by cases hx)⟩
  | case6 th _ _ ih => exact ih ⟨h.2.1 t, h.2.1, h.2.2⟩
  | case7 th _ subs k hco _ ih =>
    have hy := h.1
    rw [hco] at hy
    cases hy with
    | yield _ _ _ hk => exact ih ⟨hk _ _ (by intro c hc; cases hc), h.2.1, h.2.2⟩
  | case8 th _ subs k hco _ ids disp =>
    have hy := h.1
    rw [hco] at hy
    cases hy with
    | yield _ _ hs hk =>
      refine ⟨fun x hx => ?_, fun x hx tx htx => ?_⟩
      · injection hx with hx; subst hx
        refine ⟨AllYieldsL.yield _ _ hs hk, h.2.1, fun s hs' c hc => ?_⟩
        obtain ⟨i, _, rfl⟩ := List.mem_map.mp hs'
        cases hc
      · obtain ⟨p, hp, rfl⟩ := List.mem_map.mp hx
        exact hs tx (htx ▸ (List.of_mem_zip hp).2)

variable (I : Db → Prop)

/-- what the run may do: requests pass the front ends' state validation, and a router / sender completion handed to the
    kernel is legal -/
def ChoiceOk (L : Cpl → Prop) : Choice → Prop
  | .submit _ r => r.StateOk
  | .complete _ c => L c
  | _ => True

/-- one step.  A tick: thread by thread (`tick_ind`).  A store batch: `batch_spec`, every result list being returned by
    a pending, hence `W`-, transaction on an intermediate `I`-database. -/
theorem sysInv_step (hLerr : L .err) (hbg : ∀ env (k : BgKind) t, AllYieldsL W L (k.body env t))
    (hrq : ∀ env (r : Req) t0 t, r.StateOk → AllYieldsL W L (r.body env t0 t))
    (s : Sys) (c : Choice) (h : SysInv W L I s) (hc : ChoiceOk L c)
    (hI : ∀ db db' tx rs, I db → W tx → db.execTx s.g tx = .ok (db', rs) → I db' ∧ L (.store rs)) : SysInv W L I (s.step c).1 := by
  cases c with
  | submit tid r =>
    rcases submit_cases s tid r with ⟨e, he⟩ | he <;> rw [he]
    · exact h
    · exact { h with apiQ := fun q hq => (List.mem_append.mp hq).elim (h.apiQ q) fun hq => List.mem_singleton.mp hq ▸ hc }
  | tick t =>
    rw [Sys.step, tick_eq2]
    split
    · exact h
    · have hc := tick_ind s t (P := ThreadOk W L) (D := fun x => ∀ tx, x.2 = .store tx → W tx) h.threads
        (fun th hth dc hdc _ => threadOk_fillSlot th _ _ (h.cq dc (List.mem_of_mem_take hdc)) hth)
        (fun th th' hth hr => threadOk_resume hLerr th th' t hth hr)
        (fun th hth => by
          rcases newThreads_cases hth with ⟨tid, k, rfl⟩ | ⟨q, hq, rfl⟩
          · exact threadOk_new _ _ _ (hbg s.env k)
          · exact threadOk_new _ _ _ (hrq s.env q.2 t · (h.apiQ q (List.mem_of_mem_take hq))))
        (fun th hth => run_ok t fuelPerThread th hth)
      exact ⟨h.db, fun x hx => (List.mem_append.mp hx).elim (h.pending x) (hc.2 x), hc.1,
        fun q hq => h.apiQ q (List.mem_of_mem_drop hq), fun e he => h.cq e (List.mem_of_mem_drop he)⟩
  | execStore items =>
    -- no relation between the databases is needed here: `R` is the trivial one
    obtain ⟨hdb, _, hcpl⟩ := batch_spec s items (R := fun _ _ => True) (hr := fun _ => trivial) (ht := fun _ _ _ _ _ => trivial)
      (I := I) (Pt := W) (htx := fun _ _ _ _ _ => trivial) (fun db db' tx rs hi hw hx => (hI db db' tx rs hi hw hx).1) h.db h.pending
    rw [Sys.step, execStore_eq]
    refine { h with db := hdb, pending := fun x hx => h.pending x (List.mem_filter.mp hx).1, cq := fun e he => ?_ }
    rcases List.mem_append.mp he with he | he
    · exact h.cq e he
    · obtain ⟨tx, hmem, herr | ⟨rs, hst, dbi, dbi', _, hi, hxi, _⟩⟩ := hcpl e he
      · rw [herr]; exact hLerr
      · rw [hst]; exact (hI dbi dbi' tx rs hi (h.pending _ hmem tx rfl) hxi).2
  | complete id cp =>
    rcases complete_cases s id cp with he | ⟨_, _, he⟩ <;> rw [he]
    · exact h
    · exact { h with pending := fun x hx => h.pending x (List.mem_filter.mp hx).1,
                     cq := fun e he => (List.mem_append.mp he).elim (h.cq e) fun he => List.mem_singleton.mp he ▸ hc }
  | shutdown => exact { h with }
  | crash => exact ⟨h.db, List.forall_mem_nil _, List.forall_mem_nil _, List.forall_mem_nil _, List.forall_mem_nil _⟩

theorem sysInv_run (hLerr : L .err) (hbg : ∀ env (k : BgKind) t, AllYieldsL W L (k.body env t))
    (hrq : ∀ env (r : Req) t0 t, r.StateOk → AllYieldsL W L (r.body env t0 t))
    (cs : List Choice) (s : Sys) (h : SysInv W L I s) (hcs : ∀ c ∈ cs, ChoiceOk L c)
    (hI : ∀ db db' tx rs, I db → W tx → db.execTx s.g tx = .ok (db', rs) → I db' ∧ L (.store rs)) : SysInv W L I (s.run cs) := by
  induction cs generalizing s with
  | nil => exact h
  | cons c cs ih =>
    have hs := sysInv_step I hLerr hbg hrq s c h (hcs c (List.mem_cons_self ..)) hI
    exact ih _ hs (fun x hx => hcs x (List.mem_cons_of_mem _ hx)) (by rw [step_g]; exact hI)

theorem sysInv_boot (env : Env) (d : Dialect) (g : SqlDefs) (db : Db) (hi : I db) :
    SysInv W L I { env := env, d := d, g := g, db := db } :=
  ⟨hi, List.forall_mem_nil _, List.forall_mem_nil _, List.forall_mem_nil _, List.forall_mem_nil _⟩

end Resonate.WInv
