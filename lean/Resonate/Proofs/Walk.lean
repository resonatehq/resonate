/-
  Proofs/Walk.lean — the 22 coroutines, each walked once: whatever completions it is resumed with and at whatever
  ticks, every store transaction it submits is `TxOk`, a request coroutine never finishes without a response, and the
  tree has height at most `maxDepth`.  The projections at the end of the file are what the kernel proofs take (`ay_*`:
  Proofs/SysInv.lean; `rs_req`, `dp_*`, `qk_*`: Proofs/Kernel.lean); Kernel and TaskRun read their own conjunctions
  (`kn_*`, `wt_*`) off `tree_req` / `tree_bg` in the same way.

  The heights are bounds, not exact: 8 is room for every coroutine but `createPromiseInner`, whose read (1) is followed by
  the `createPromise` child (router step, store step and its shape checks: 3) with up to 8 below, hence 12 = `maxDepth`.
-/
import Resonate.Proofs.Tree
import Resonate.Proofs.TxShape
namespace Resonate
open Coro

variable {L : Cpl → Prop} {valid legal : Prop}

/-- walks an interaction tree down to its leaves, trying `t` first at every node; what is left is the yields whose
    transaction is not made of plain commands -/
macro "walk" "using" t:tactic : tactic =>
  `(tactic| repeat' (first
    | ($t:tactic)
    | exact Tree.done _ _ (by trivial)
    | exact Tree.retry _
    | exact Tree.panic _ _
    | (refine Tree.ite (fun _ => ?_) (fun _ => ?_))
    | (refine Tree.yield _ _ _ ?_ (fun _ _ _ => ?_))
    | exact SubsOk.one (.of_plain (List.cons_ne_nil _ _) rfl)
    | exact SubsOk.one (.timeoutTx _ _ _)
    | split
    | (dsimp only)))

macro "walk" : tactic => `(tactic| walk using fail)

/-- the task command a `createPromise` child may be given for promise `id`: that promise's invocation task, claimed or not -/
def TaskCmdOk (id : String) (tc : Option CreateTaskCmd) : Prop :=
  ∀ c, tc = some c → c.id = invokeId id ∧ c.mesg.root = id ∧ (c.state = 1 ∨ (c.state = 4 ∧ c.processId.isSome = true))

theorem txOk_childCmd (pc : CreatePromiseCmd) (tc : Option CreateTaskCmd) (routed : Option String)
    (htc : TaskCmdOk pc.id tc) : TxOk valid legal [childCmd pc (childTask pc tc routed)] := by
  cases routed with
  | none => exact .of_plain (List.cons_ne_nil _ _) rfl
  | some recv =>
    cases tc with
    | none => exact .promiseAndTask (rest := []) rfl rfl (.inl rfl) (fun _ h => nomatch h)
    | some c => obtain ⟨hid, hr, hs⟩ := htc c rfl; exact .promiseAndTask (tc := { c with recv := recv }) (rest := []) hid hr hs (fun _ h => nomatch h)

theorem tree_childStore {D : Option Resp → Prop} (n : Nat) (pc : CreatePromiseCmd) (ft : Option CreateTaskCmd) (extra : List Cmd)
    (k : ChildOut → Co) (hw : TxOk valid legal (childCmd pc ft :: extra))
    (hk : ∀ o, Tree L (SubsOk valid legal) D (n + 1) (k o)) :
    Tree L (SubsOk valid legal) D (n + 2) (childStore pc ft extra k) := by
  unfold childStore
  refine .yield _ _ _ (.one hw) fun _ _ _ => ?_
  repeat' (first | exact hk _ | exact Tree.panic _ _ | (refine Tree.ite (fun _ => ?_) (fun _ => ?_)) | split)

theorem tree_createPromiseChild {D : Option Resp → Prop} (n : Nat) (pc : CreatePromiseCmd) (tc : Option CreateTaskCmd)
    (k : ChildOut → Co) (htc : TaskCmdOk pc.id tc) (hk : ∀ o, Tree L (SubsOk valid legal) D (n + 1) (k o)) :
    Tree L (SubsOk valid legal) D (n + 3) (createPromiseChild pc tc [] k) := by
  unfold createPromiseChild
  refine .yield _ _ _ (by intro tx hm; simp at hm) fun _ cpls _ => ?_
  split
  · exact .ite (fun _ => (hk _).le (by omega)) fun _ =>
      .ite (fun _ => (hk _).le (by omega)) fun _ =>
        tree_childStore n _ _ _ _ (txOk_childCmd pc tc _ htc) hk
  · exact .panic _ _

theorem tree_createPromiseInner (req : CreatePromiseReq) (tc : Option CreateTaskCmd) (wt : Bool) (t0 : Time)
    (htc : TaskCmdOk req.id tc) :
    Tree L (SubsOk valid legal) (·.isSome) 12 (createPromiseInner req tc wt t0) := by
  unfold createPromiseInner
  refine .yield _ _ _ (.one (.of_plain (List.cons_ne_nil _ _) rfl)) fun _ _ _ => ?_
  -- by what the read of the promise returned: error / malformed / no row (create it: the child) / a row
  split
  · walk
  · walk
  · refine tree_createPromiseChild 8 _ _ _ htc fun o => ?_
    walk
  · walk

theorem tree_completePromise (req : CompletePromiseReq) (t0 : Time) (hv : valid → promiseStateOk req.state = true) :
    Tree L (SubsOk valid legal) (·.isSome) 8 (completePromise req t0) := by
  unfold completePromise
  refine .yield _ _ _ (.one (.of_plain (List.cons_ne_nil _ _) rfl)) fun _ _ _ => ?_
  -- by what the read of the promise returned: error / malformed / no row / a row
  split
  · walk
  · walk
  · walk
  · dsimp only
    -- pending: the completion block — the request's own completion, or the time-out if the promise is overdue
    refine .ite (fun _ => .yield _ _ _ (.one ?_) fun _ _ _ => ?_) fun _ => ?_
    · split
      · exact .completeTx _ _ hv
      · exact .timeoutTx _ _ _
    · walk
    · walk

theorem tree_searchPromises (req : SearchPromisesReq) (t0 : Time) :
    Tree L (SubsOk valid legal) (·.isSome) 8 (searchPromises req t0) := by
  unfold searchPromises
  refine .ite (fun _ => .panic _ _) fun hid => .ite (fun _ => .panic _ _) fun _ => ?_
  refine .yield _ _ _ (.one (.one rfl ⟨trivial, fun _ => trivial, fun _ => by simpa [cmdNA] using hid⟩)) fun _ _ _ => ?_
  walk
  -- left: the yield of one time-out block per overdue hit
  exact SubsOk.map fun _ _ => .timeoutTx _ _ _

theorem ay_multiTimeout {α} (l : List α) (f : α → String × Promise) (t : Time) (k : Time → List Cpl → Co)
    (hk : ∀ t cpls, AllYields WfC (k t cpls)) :
    AllYields WfC (.yield (l.map fun x => .store (completeTx (timeoutCmd (f x).1 (f x).2) t)) k) :=
  .yield _ _ (fun tx hm => (SubsOk.map (valid := True) (legal := True) (fun _ _ => .timeoutTx _ _ _) tx hm).wfC trivial) hk

theorem tree_registerCallback (pid cb recv : String) (m : Mesg) (to : Int) (hcb : NotInvoke cb) :
    Tree L (SubsOk valid legal) (·.isSome) 8 (registerCallback pid cb recv m to) := by
  unfold registerCallback
  walk
  -- left: the yield that writes the registration
  exact .one (.one rfl ⟨hcb, fun _ => trivial, fun _ => trivial⟩)

theorem tree_createCallback (req : CreateCallbackReq) (t0 : Time) :
    Tree L (SubsOk valid legal) (·.isSome) 8 (createCallback req t0) :=
  .ite (fun _ => .done _ _ rfl) fun _ => tree_registerCallback _ _ _ _ _ (notInvoke_callbackId _ _)

theorem tree_searchSchedules (req : SearchSchedulesReq) (t0 : Time) :
    Tree L (SubsOk valid legal) (·.isSome) 8 (searchSchedules req t0) := by
  unfold searchSchedules
  refine .ite (fun _ => .panic _ _) fun hid => .ite (fun _ => .panic _ _) fun _ => ?_
  refine .yield _ _ _ (.one (.one rfl ⟨trivial, fun _ => trivial, fun _ => by simpa [cmdNA] using hid⟩)) fun _ _ _ => ?_
  walk

theorem subsOk_updateTask {c : UpdateTaskCmd} (h : wfUpdateTask c = true) : SubsOk valid legal [.store [.updateTask c]] :=
  .one (.one rfl (.updateTask (by intro h0; simp [wfUpdateTask, h0] at h) fun _ => h))

theorem tree_claimTask (env : Env) (req : ClaimTaskReq) (t0 : Time) :
    Tree L (SubsOk valid legal) (·.isSome) 8 (claimTask env req t0) := by
  unfold claimTask
  walk
  -- left: the yield of the guarded claim
  exact subsOk_updateTask (by simp [wfUpdateTask, taskStateActive, T_INIT, T_ENQUEUED, T_CLAIMED])

theorem tree_completeTask (id : String) (c : Int) (t0 : Time) :
    Tree L (SubsOk valid legal) (·.isSome) 8 (completeTask id c t0) := by
  unfold completeTask
  walk
  -- left: the yield of the guarded completion
  exact subsOk_updateTask (by simp [wfUpdateTask, taskStateActive, T_CLAIMED, T_COMPLETED])

theorem tree_timeoutPromises (env : Env) (t0 : Time) :
    Tree L (SubsOk valid legal) (fun _ => True) 8 (timeoutPromises env t0) := by
  unfold timeoutPromises
  walk
  -- left: the yield of one time-out block per row read
  exact SubsOk.map fun _ _ => .timeoutTx _ _ _

/-- the lease sweep guards each update by the state it read (`CurrentStates: []task.State{t.State}`): that is a disciplined
    update only because the state it read is one the store writes — the one place where the walk needs to know something
    about the completions -/
theorem tree_timeoutTasks (env : Env) (t0 : Time) (hL : legal → ∀ c, L c → LegalCpl c) :
    Tree L (SubsOk valid legal) (fun _ => True) 8 (timeoutTasks env t0) := by
  unfold timeoutTasks
  refine .yield _ _ _ (.one (.one rfl ⟨trivial, fun _ => trivial, fun _ => by simp [cmdNA]⟩)) fun t cpls hl => ?_
  -- by the completion of the read: an error / `[.store [.tasks rows]]` / anything else
  split
  · walk
  · rename_i rows
    -- `hact`: the coroutine's own check that every row has one of the three live bits
    refine .ite (fun _ => .panic _ _) fun hact => .ite (fun _ => .done _ _ trivial) fun hne => ?_
    refine .ite (fun _ => .done _ _ trivial) fun _ =>
      .yield _ _ _ (.one (.map (by simpa using hne) fun r hr => ?_)) fun _ _ _ => .done _ _ trivial
    -- `r` is a row of the one result of the one completion, which is legal (`hl`, `hL`): a state the store writes, with a live bit
    have hrow : legal → legalTask r.state = true := fun hleg =>
      hL hleg _ (hl _ (List.mem_singleton_self _)) _ (List.mem_singleton_self _) r hr
    have hlive : legal → taskStateActive r.state = true := fun hleg =>
      active_of_legal (hrow hleg) fun h0 => hact (List.any_eq_true.mpr ⟨r, hr, by simpa using h0⟩)
    split
    · exact ⟨rfl, .updateTask (by simp) fun hleg => by simp [wfUpdateTask, hlive hleg, T_INIT]⟩
    · exact ⟨rfl, .updateTask (by simp) fun hleg => by simp [wfUpdateTask, hlive hleg, T_TIMEDOUT]⟩
  · walk

theorem enqueueOutcomeCmd_ok (e : Int) (r : TaskRow) (o : Cpl) :
    (enqueueOutcomeCmd e r o).loose = true ∧ CmdOk valid legal (enqueueOutcomeCmd e r o) := by
  unfold enqueueOutcomeCmd
  split
  · exact ⟨rfl, .updateTask (by simp) fun _ => by simp [wfUpdateTask, taskStateActive, T_INIT, T_COMPLETED]⟩
  · split
    · exact ⟨rfl, .updateTask (by simp) fun _ => by simp [wfUpdateTask, taskStateActive, T_INIT, T_ENQUEUED]⟩
    · exact ⟨rfl, .updateTask (by simp) fun _ => by simp [wfUpdateTask, taskStateActive, T_INIT]⟩

theorem tree_enqueueFinish (n : Nat) (dead : List Cmd) (live : List TaskRow) (e : Int) (outs : List Cpl)
    (hd : ∀ c ∈ dead, c.loose = true ∧ CmdOk valid legal c) :
    Tree L (SubsOk valid legal) (fun _ => True) (n + 3) (enqueueFinish dead live e outs) := by
  unfold enqueueFinish
  refine .ite (fun _ => .done _ _ trivial) fun hne => .yield _ _ _ (.one ?_) fun _ _ _ => .done _ _ trivial
  refine .of_loose (by simpa using hne) fun c hc => ?_
  rcases List.mem_append.mp hc with hc | hc
  · exact hd c hc
  · obtain ⟨x, _, rfl⟩ := List.mem_map.mp hc
    exact enqueueOutcomeCmd_ok _ _ _

theorem tree_enqueueTasks (env : Env) (t0 : Time) :
    Tree L (SubsOk valid legal) (fun _ => True) 8 (enqueueTasks env t0) := by
  unfold enqueueTasks
  -- `dead`, the first part of the closing transaction: time-out updates of tasks read in state init.  Stated beforehand, with
  -- the model's command written out: a tactic block inside `walk using` would be run again at every node of the tree
  have hdead : ∀ (l : List (TaskRow × Res)) (c : Cmd),
      c ∈ l.map (fun (x : TaskRow × Res) => Cmd.updateTask { id := x.1.id, processId := none, state := T_TIMEDOUT, counter := x.1.counter, attempt := x.1.attempt, ttl := 0, expiresAt := 0, completedOn := some x.1.timeout, currentStates := [T_INIT], currentCounter := x.1.counter }) →
        c.loose = true ∧ CmdOk valid legal c := by
    intro l c hc
    obtain ⟨x, _, rfl⟩ := List.mem_map.mp hc
    exact ⟨rfl, .updateTask (by simp) fun _ => by simp [wfUpdateTask, taskStateActive, T_INIT, T_TIMEDOUT]⟩
  walk using exact tree_enqueueFinish _ _ _ _ _ (hdead _)
  · -- the yield that reads the root promises of the tasks read: one transaction of reads
    rename_i hne
    exact .one (.map (by simpa using hne) fun _ _ => ⟨rfl, .of_plain rfl⟩)
  · -- the yield to the senders: no store transaction among the submissions
    intro tx hm
    obtain ⟨x, _, hx⟩ := List.mem_map.mp hm
    cases hx

theorem tree_schedulePromises (env : Env) (t0 : Time) :
    Tree L (SubsOk valid legal) (fun _ => True) 8 (schedulePromises env t0) := by
  unfold schedulePromises
  walk
  · -- the yield to the router: no store transaction among the submissions
    intro tx hm
    obtain ⟨x, _, hx⟩ := List.mem_map.mp hm
    cases hx
  · -- the yield that fires the items: one transaction per item
    intro tx hm
    obtain ⟨⟨⟨pc, upd⟩, rc⟩, hmem, hx⟩ := List.mem_map.mp hm
    -- `upd` is the UpdateSchedule built for this item
    have hupd : upd.plain = true := by
      obtain ⟨r, _, hr⟩ := List.mem_filterMap.mp (List.of_mem_zip (List.mem_filter.mp hmem).1).1
      split at hr
      · cases hr; rfl
      · cases hr
    have hrest : ∀ c ∈ [upd], c.loose = true ∧ CmdOk valid legal c := by
      intro c hc; rw [List.mem_singleton.mp hc]; exact ⟨Cmd.plain_loose hupd, .of_plain hupd⟩
    split at hx <;> cases hx
    · exact .promiseAndTask rfl rfl (.inl rfl) hrest
    · exact .of_loose (List.cons_ne_nil _ _) (List.forall_mem_cons.mpr ⟨⟨rfl, .of_plain rfl⟩, hrest⟩)

/-- height bound used by the kernel proofs: the highest tree is `createPromiseInner` (`tree_createPromiseInner`), and
    `maxDepth + 2` steps fit the kernel model's per-thread fuel (`fuelPerThread = 64`, checked in Proofs/Kernel.lean) -/
def maxDepth : Nat := 12

theorem tree_req (env : Env) (r : Req) (t0 t : Time) :
    Tree L (SubsOk r.StateOk legal) (·.isSome) maxDepth (r.body env t0 t) := by
  cases r with
  | searchPromises q => exact (tree_searchPromises q t).le (by decide)
  | createPromise q => exact tree_createPromiseInner q none false t (fun _ h => nomatch h)
  | createPromiseAndTask p tr =>
    simp only [Req.body]
    split
    · exact .panic _ _
    · rename_i hid
      split
      · exact .panic _ _
      · refine tree_createPromiseInner _ _ _ _ fun c hc => ?_
        cases hc
        have : p.id = tr.promiseId := by simpa using hid
        -- `TaskCmdOk`: the task is the promise's invocation task, rooted at the promise, created claimed by a process
        exact ⟨this ▸ rfl, this ▸ rfl, .inr ⟨rfl, rfl⟩⟩
  | completePromise q => exact (tree_completePromise q t fun hv => hv).le (by decide)
  | createCallback q => exact (tree_createCallback q t).le (by decide)
  | createSubscription q => exact (tree_registerCallback _ _ _ _ _ (notInvoke_subscriptionId _ _)).le (by decide)
  | searchSchedules q => exact (tree_searchSchedules q t).le (by decide)
  | claimTask q => exact (tree_claimTask env q t).le (by decide)
  | completeTask id c => exact (tree_completeTask id c t).le (by decide)
  -- readPromise, readSchedule, createSchedule, deleteSchedule, the three lock requests, heartbeatTasks: plain transactions (and
  -- readPromise's lazy time-out block), which the walker knows
  | _ => walk

theorem tree_bg (env : Env) (k : BgKind) (t : Time) (hL : legal → ∀ c, L c → LegalCpl c) :
    Tree L (SubsOk valid legal) (fun _ => True) maxDepth (k.body env t) := by
  cases k with
  | timeoutPromises => exact (tree_timeoutPromises env t).le (by decide)
  | schedulePromises => exact (tree_schedulePromises env t).le (by decide)
  | timeoutLocks => walk
  | timeoutTasks => exact (tree_timeoutTasks env t hL).le (by decide)
  | enqueueTasks => exact (tree_enqueueTasks env t).le (by decide)

theorem ay_req (env : Env) (r : Req) (t0 t : Time) (h : r.StateOk) : AllYields WfC (r.body env t0 t) :=
  (tree_req (legal := True) env r t0 t).allYields fun _ hs tx hm => (hs tx hm).wfC h

/-! In the projections below `legal := False` makes the `UOk` part of `TxOk` vacuous, so `tree_bg` needs nothing about the
    completions (`nofun`); `au_bg` is the one that takes `legal := True`, at `L := LegalCpl`. -/

theorem ay_bg (env : Env) (k : BgKind) (t : Time) : AllYields WfC (k.body env t) :=
  (tree_bg (valid := True) (legal := False) env k t nofun).allYields fun _ hs tx hm => (hs tx hm).wfC trivial

theorem na_req (env : Env) (r : Req) (t0 t : Time) (h : r.StateOk) : AllYields NA (r.body env t0 t) :=
  (tree_req (legal := True) env r t0 t).allYields fun _ hs tx hm => (hs tx hm).nA h

theorem na_bg (env : Env) (k : BgKind) (t : Time) : AllYields NA (k.body env t) :=
  (tree_bg (valid := True) (legal := False) env k t nofun).allYields fun _ hs tx hm => (hs tx hm).nA trivial

theorem au_req (env : Env) (r : Req) (t0 t : Time) : AllYields UOk (r.body env t0 t) :=
  (tree_req (legal := True) env r t0 t).allYields fun _ hs tx hm => (hs tx hm).uOk trivial

theorem au_bg (env : Env) (k : BgKind) (t : Time) : WInv.AllYieldsL UOk LegalCpl (k.body env t) :=
  (tree_bg (valid := True) (legal := True) env k t fun _ _ h => h).allYieldsL fun _ hs tx hm => (hs tx hm).uOk trivial

theorem rs_req (env : Env) (r : Req) (t0 t : Time) : Resp1 (r.body env t0 t) :=
  (tree_req (legal := True) env r t0 t).resp1

theorem dp_req (env : Env) (r : Req) (t0 t : Time) : Depth maxDepth (r.body env t0 t) :=
  (tree_req (legal := True) env r t0 t).depth

theorem dp_bg (env : Env) (k : BgKind) (t : Time) : Depth maxDepth (k.body env t) :=
  (tree_bg (valid := True) (legal := False) env k t nofun).depth

/-! a freshly (re)started coroutine blocks, or finishes, at its first step -/

theorem qk_req (env : Env) (r : Req) (t0 t : Time) : Quick 1 (r.body env t0 t) := by
  have blk : ∀ {s : Subm} {k}, Quick 1 (.yield [s] k) := .block 0 _ _ (List.cons_ne_nil _ _)
  cases r with
  | searchPromises q | searchSchedules q | claimTask q => exact .ite (.panic 0 _) (.ite (.panic 0 _) blk)
  | createCallback q => exact .ite (.done 0 _) blk
  | createPromiseAndTask p tr =>
    simp only [Req.body]
    split
    · exact .panic 0 _
    · split
      · exact .panic 0 _
      · exact blk
  | _ => exact blk

theorem qk_bg (env : Env) (k : BgKind) (t : Time) : Quick 1 (k.body env t) := by
  cases k <;> exact .block 0 _ _ (List.cons_ne_nil _ _)
