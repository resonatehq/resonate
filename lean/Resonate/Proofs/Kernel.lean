/-
  Proofs/Kernel.lean — composition: the kernel delivers to every coroutine completions that ANSWER its submissions
  (Proofs/NoPanic.lean: `Answers`), on databases whose keys are unique (Proofs/KeysInv.lean), at clocks that do not
  run backwards — along EVERY run of `Sys.step`.  Hence the `NoPanic` predicate, proved per coroutine, holds of every
  thread of every reachable state, and no run ever emits an assertion event (Properties/C13.lean).

  Names of submissions.  The model names a dispatched submission by (thread id, sequence number); the Go kernel uses
  closures, so a completion can never reach another coroutine.  The model's naming is faithful as long as a thread id
  is not reused while anything of an earlier thread with that id is still around; `TickOk` states exactly that and is
  a hypothesis on runs here (evaluated by the driver on every script of the correspondence harness); Proofs/FreshIds.lean
  derives it from fresh request ids and a positive signal timeout.
-/
import Resonate.Proofs.KernelEq
import Resonate.Proofs.KeysInv
import Resonate.Proofs.Walk
import Resonate.Proofs.NoStoreAssert
namespace Resonate
open SqlSpec

/-- slots numbered from `b`, aligned with `subs`; filled ones answer their submission -/
def SlotsOk (A : Subm → Cpl → Prop) : Nat → List Subm → List (Nat × Option Cpl) → Prop
  | _, [], [] => True
  | b, s :: ss, sl :: sls => sl.1 = b ∧ (∀ c, sl.2 = some c → A s c) ∧ SlotsOk A (b + 1) ss sls
  | _, _, _ => False

/-- a completion carrying sequence number `q` answers the submission at that position (if any) -/
def CplOk (A : Subm → Cpl → Prop) : Nat → List Subm → Nat → Cpl → Prop
  | _, [], _, _ => True
  | b, s :: ss, q, c => (q = b → A s c) ∧ CplOk A (b + 1) ss q c

/-- a pending submission carrying sequence number `q` is the submission at that position (if any) -/
def SubOk : Nat → List Subm → Nat → Subm → Prop
  | _, [], _, _ => True
  | b, s :: ss, q, s' => (q = b → s' = s) ∧ SubOk (b + 1) ss q s'

def Answers' (A : Subm → Cpl → Prop) : List Subm → List Cpl → Prop
  | [], [] => True
  | s :: ss, c :: cs => A s c ∧ Answers' A ss cs
  | _, _ => False

theorem answers_iff (d : Dialect) (lo hi : Db) (subs : List Subm) (cpls : List Cpl) :
    Answers d lo hi subs cpls ↔ Answers' (AnswerOne d lo hi) subs cpls := by
  induction subs generalizing cpls with
  | nil => cases cpls <;> exact Iff.rfl
  | cons s ss ih => cases cpls with
    | nil => exact Iff.rfl
    | cons c cs => exact and_congr Iff.rfl (ih cs)

theorem cplOk_iff {A : Subm → Cpl → Prop} {subs : List Subm} {b q : Nat} {c : Cpl} :
    CplOk A b subs q c ↔ ∀ i s, subs[i]? = some s → q = b + i → A s c := by
  induction subs generalizing b with
  | nil => simp [CplOk]
  | cons s ss ih =>
    rw [CplOk, ih]
    constructor
    · rintro ⟨h0, h⟩ i s' hs hq
      cases i with
      | zero => cases hs; exact h0 hq
      | succ i => exact h i s' hs (by omega)
    · exact fun h => ⟨h 0 s rfl, fun i s' hs hq => h (i + 1) s' hs (by omega)⟩

/-- `SubOk` is `CplOk` for "is that submission" -/
theorem subOk_iff {subs : List Subm} {b q : Nat} {s' : Subm} :
    SubOk b subs q s' ↔ ∀ i s, subs[i]? = some s → q = b + i → s' = s := by
  rw [← cplOk_iff (A := fun s _ => s' = s) (c := .err)]
  induction subs generalizing b with
  | nil => exact Iff.rfl
  | cons s ss ih => exact and_congr Iff.rfl ih

theorem slotsOk_mono {A B : Subm → Cpl → Prop} (hab : ∀ s c, A s c → B s c) :
    ∀ (subs : List Subm) (b : Nat) (slots : List (Nat × Option Cpl)), SlotsOk A b subs slots → SlotsOk B b subs slots := by
  intro subs b slots h
  fun_induction SlotsOk A b subs slots with
  | case1 => trivial
  | case2 b s ss sl sls ih => exact ⟨h.1, fun c hc => hab _ _ (h.2.1 c hc), ih h.2.2⟩
  | case3 => exact h.elim

theorem cplOk_all {A : Subm → Cpl → Prop} (c : Cpl) (h : ∀ s, A s c) : ∀ (subs : List Subm) (b q : Nat), CplOk A b subs q c :=
  fun _ _ _ => cplOk_iff.mpr fun _ s _ _ => h s

/-- filling the slot numbered `q` with a completion that answers at `q` -/
theorem slotsOk_fill {A : Subm → Cpl → Prop} (q : Nat) (c : Cpl) :
    ∀ (subs : List Subm) (b : Nat) (slots : List (Nat × Option Cpl)), SlotsOk A b subs slots → CplOk A b subs q c →
      SlotsOk A b subs (slots.map fun s => if s.1 == q && s.2.isNone then (s.1, some c) else s) := by
  intro subs b slots h hc
  fun_induction SlotsOk A b subs slots with
  | case1 => trivial
  | case2 b s ss sl sls ih =>
    simp only [List.map_cons]
    refine ⟨?_, fun c' hc' => ?_, ih h.2.2 hc.2⟩
    · split <;> exact h.1
    · split at hc'
      · rename_i hcond
        simp only [Bool.and_eq_true, beq_iff_eq] at hcond
        cases hc'
        exact hc.1 (by rw [← hcond.1, h.1])
      · exact h.2.1 c' hc'
  | case3 => exact h.elim

theorem answerOne_err (d : Dialect) (lo hi : Db) (s : Subm) : AnswerOne d lo hi s .err := by
  cases s <;> exact trivial

/-- a request coroutine resumed on its first failed child: the children that have not completed count as failed -/
theorem slotsOk_answers_err {A : Subm → Cpl → Prop} (herr : ∀ s, A s .err) :
    ∀ (subs : List Subm) (b : Nat) (slots : List (Nat × Option Cpl)), SlotsOk A b subs slots →
      Answers' A subs (slots.map fun s => s.2.getD .err) := by
  intro subs b slots h
  fun_induction SlotsOk A b subs slots with
  | case1 => trivial
  | case2 b s ss sl sls ih =>
    refine ⟨?_, ih h.2.2⟩
    show A s (sl.2.getD .err)
    cases hsl : sl.2 with
    | none => exact herr s
    | some c => exact h.2.1 c hsl
  | case3 => exact h.elim

theorem freshSlots_ok (A : Subm → Cpl → Prop) : ∀ (subs : List Subm) (b : Nat), SlotsOk A b subs (freshSlots b subs) := by
  intro subs b
  fun_induction freshSlots b subs with
  | case1 => trivial
  | case2 b s ss ih => exact ⟨rfl, nofun, ih⟩

theorem dispOf_spec (tid : String) : ∀ (subs : List Subm) (b : Nat) (e : SubId × Subm), e ∈ dispOf tid b subs →
    e.1.tid = tid ∧ b ≤ e.1.seq ∧ e.1.seq < b + subs.length ∧ SubOk b subs e.1.seq e.2 ∧ e.2 ∈ subs := by
  intro subs
  induction subs with
  | nil => intro b e h; simp [dispOf] at h
  | cons s ss ih =>
    intro b e h
    simp only [dispOf, List.mem_cons] at h
    rcases h with rfl | h
    · exact ⟨rfl, Nat.le_refl _, by simp, ⟨fun _ => rfl, subOk_iff.mpr fun i _ _ (hq : b = b + 1 + i) => by omega⟩, List.mem_cons_self ..⟩
    · obtain ⟨h1, h2, h3, h4, h5⟩ := ih _ _ h
      refine ⟨h1, by omega, by simp only [List.length_cons]; omega, ⟨fun hq => by omega, h4⟩, List.mem_cons_of_mem _ h5⟩

/-- the shape of every transaction the coroutines yield: ids as `KOk` wants them, and no command that trips an
    assertion of the store (`NA`) -/
def KN (tx : List Cmd) : Prop := KOk tx ∧ NA tx

theorem kn_req (env : Env) (r : Req) (t0 t : Time) (h : r.StateOk) : AllYields KN (r.body env t0 t) :=
  (tree_req (legal := True) env r t0 t).allYields fun _ hs tx hm => ⟨(hs tx hm).kOk, (hs tx hm).nA h⟩

theorem kn_bg (env : Env) (k : BgKind) (t : Time) : AllYields KN (k.body env t) :=
  (tree_bg (valid := True) (legal := False) env k t nofun).allYields fun _ hs tx hm => ⟨(hs tx hm).kOk, (hs tx hm).nA trivial⟩

/-- what never changes in the life of a thread: whenever it is restarted it is a coroutine without reachable assertion
    whose transactions have the shape `KN`, that answers if it is a request, of bounded height, blocking at its first step -/
structure Static (d : Dialect) (th : Thread) : Prop where
  np : ∀ t lo now, t ≤ now → NoPanic d lo now (th.restart t)
  ak : ∀ t, AllYields KN (th.restart t)
  rs : th.isBg = none → ∀ t, Resp1 (th.restart t)
  dp : ∀ t, Depth maxDepth (th.restart t)
  qk : ∀ t, Quick 1 (th.restart t)

/-- a blocked thread, relative to the database `db`, the pending submissions `P`, the completion queue `Q` and the clock -/
structure TInv (d : Dialect) (db : Db) (P : List (SubId × Subm)) (Q : List (SubId × Cpl)) (clk : Time) (th : Thread) : Prop where
  static : Static d th
  resp : th.isBg = none → Resp1 th.co
  dp : Depth maxDepth th.co
  blocked : ∃ subs k lo now base, th.co = .yield subs k ∧ subs ≠ [] ∧ NoPanic d lo now (.yield subs k) ∧ AllYields KN (.yield subs k) ∧
     PromMono lo db ∧ now ≤ clk ∧ th.nextSeq = base + subs.length ∧ SlotsOk (AnswerOne d lo db) base subs th.slots ∧
     (∀ e ∈ P, e.1.tid = th.tid → SubOk base subs e.1.seq e.2 ∧ e.1.seq < th.nextSeq) ∧
     (∀ e ∈ Q, e.1.tid = th.tid → CplOk (AnswerOne d lo db) base subs e.1.seq e.2 ∧ e.1.seq < th.nextSeq)

/-- a thread about to run at tick `t` on database `db` -/
structure Runnable (d : Dialect) (db : Db) (P : List (SubId × Subm)) (Q : List (SubId × Cpl)) (t : Time) (th : Thread) : Prop where
  static : Static d th
  np : NoPanic d db t th.co
  ak : AllYields KN th.co
  pend : ∀ e ∈ P, e.1.tid = th.tid → e.1.seq < th.nextSeq
  cq : ∀ e ∈ Q, e.1.tid = th.tid → e.1.seq < th.nextSeq
  rs : th.isBg = none → Resp1 th.co
  dp : Depth maxDepth th.co

/-- `Static` reads `restart` and `isBg` only; wherever this is used the thread differs in other fields, and both equations
    are `rfl` -/
theorem Static.of_eq {d : Dialect} {th th' : Thread} (h : Static d th) (hr : th'.restart = th.restart := by rfl)
    (hb : th'.isBg = th.isBg := by rfl) : Static d th' :=
  ⟨hr ▸ h.np, hr ▸ h.ak, hr ▸ hb ▸ h.rs, hr ▸ h.dp, hr ▸ h.qk⟩

theorem Runnable.yield {d : Dialect} {db : Db} {P : List (SubId × Subm)} {Q : List (SubId × Cpl)} {t : Time} {th : Thread}
    {subs : List Subm} {k : Time → List Cpl → Co} (h : Runnable d db P Q t th) (hco : th.co = .yield subs k) :
    NoPanic d db t (.yield subs k) ∧ AllYields KN (.yield subs k) ∧ (th.isBg = none → Resp1 (.yield subs k)) ∧
      Depth maxDepth (.yield subs k) :=
  hco ▸ ⟨h.np, h.ak, h.rs, h.dp⟩

theorem yield_next {d : Dialect} {lo db : Db} {now t : Time} {subs : List Subm} {k : Time → List Cpl → Co} {isBg : Option BgKind}
    (hnp : NoPanic d lo now (.yield subs k)) (hak : AllYields KN (.yield subs k)) (hrs : isBg = none → Resp1 (.yield subs k))
    (hdp : Depth maxDepth (.yield subs k)) (hm : PromMono lo db) (hle : now ≤ t) (cpls : List Cpl) (ha : Answers d lo db subs cpls) :
    NoPanic d db t (k t cpls) ∧ AllYields KN (k t cpls) ∧ (isBg = none → Resp1 (k t cpls)) ∧ Depth maxDepth (k t cpls) := by
  refine ⟨?_, ?_, fun hb => ?_, ?_⟩
  · cases hnp with
    | yield _ _ _ _ hk => exact hk t cpls db hle hm ha
  · cases hak with
    | yield _ _ _ hk => exact hk t cpls
  · cases hrs hb with
    | yield _ _ hk => exact hk t cpls
  · cases hdp with
    | yield _ _ _ hk => exact (hk t cpls).mono (by unfold maxDepth; omega)

theorem run_spec (d : Dialect) (db : Db) (P : List (SubId × Subm)) (Q : List (SubId × Cpl)) (t : Time)
    (fuel : Nat) (th : Thread) (h : Runnable d db P Q t th) (n : Nat) (hq : Quick n th.co) (hn : n + 1 ≤ fuel) :
      (∀ e ∈ (th.run t fuel).2.1, e.isAssert = false) ∧
      (∀ e ∈ (th.run t fuel).2.2.1, ∀ tx, e.2 = .store tx → KN tx) ∧
      (th.run t fuel).2.2.2 = none ∧
      ∀ x, (th.run t fuel).1 = some x → TInv d db (P ++ (th.run t fuel).2.2.1) Q t x := by
  -- the eight cases are listed at `run_tids` (Proofs/KernelEq.lean)
  fun_induction Thread.run th t fuel generalizing n with
  | case1 => omega
  | case2 | case4 => exact ⟨fun e he => List.mem_singleton.mp he ▸ rfl, fun e he => (by cases he), rfl, fun x hx => (by cases hx)⟩
  | case3 th _ hbg hco =>
    -- a request coroutine finished without a response: excluded
    have := h.rs hbg
    rw [hco] at this
    cases this
  | case5 th _ site hco =>
    -- panic: excluded
    have := h.np
    rw [hco] at this
    cases this
  | case6 th _ hco ih =>
    -- restart: the restarted coroutine blocks or finishes at its first step
    rw [hco] at hq
    cases hq with
    | retry m => exact ih ⟨h.static.of_eq, h.static.np t db t (Int.le_refl _), h.static.ak t, h.pend, h.cq, fun hb => h.static.rs hb t,
        h.static.dp t⟩ 1 (h.static.qk t) (by omega)
  | case7 th _ subs k hco hemp ih =>
    -- empty yield: continue at once
    obtain ⟨hnp, hak, hrs, hdp⟩ := h.yield hco
    rw [hco] at hq
    have hs : subs = [] := by simpa using hemp
    obtain ⟨hnp', hak', hrs', hdp'⟩ := yield_next hnp hak hrs hdp (PromMono.refl db) (Int.le_refl t) [] (by rw [hs]; trivial)
    cases hq with
    | block _ _ _ hne' => exact absurd hs hne'
    | skip m _ _ hk => exact ih ⟨h.static.of_eq, hnp', hak', h.pend, h.cq, hrs', hdp'⟩ m (hk t) (by omega)
  | case8 th _ subs k hco hne ids disp =>
    -- a yield that blocks: fresh slots, and what it dispatches is pending under new sequence numbers
    obtain ⟨hnp, hak, hrs, hdp⟩ := h.yield hco
    have hs : subs ≠ [] := by intro h0; simp [h0] at hne
    rw [show disp = dispOf th.tid th.nextSeq subs from disp_eq th.tid subs th.nextSeq,
      show ids.map (fun i => (i, none)) = freshSlots th.nextSeq subs from slots_eq subs th.nextSeq]
    refine ⟨fun e he => ?_, fun e he tx htx => ?_, rfl, fun x hx => ?_⟩
    · obtain ⟨x, _, rfl⟩ := List.mem_map.mp he
      rfl
    · cases hak with
      | yield _ _ hs' _ => exact hs' tx (htx ▸ (dispOf_spec th.tid subs th.nextSeq e he).2.2.2.2)
    · injection hx with hx
      subst hx
      refine ⟨h.static.of_eq, hrs, hdp, subs, k, db, t, th.nextSeq, rfl, hs, hnp, hak, PromMono.refl _, Int.le_refl _, rfl,
        freshSlots_ok _ _ _, fun e he htid => ?_, fun e he htid => ?_⟩
      -- an older sequence number is below the new base `th.nextSeq`: no position of the new yield carries it
      · rcases List.mem_append.mp he with he | he
        · have hold : e.1.seq < th.nextSeq := h.pend e he htid
          exact ⟨subOk_iff.mpr fun i _ _ hq => by omega, by simp only; omega⟩
        · obtain ⟨_, _, hlt, hsub, _⟩ := dispOf_spec th.tid subs th.nextSeq e he
          exact ⟨hsub, hlt⟩
      · have hold : e.1.seq < th.nextSeq := h.cq e he htid
        exact ⟨cplOk_iff.mpr fun i _ _ hq => by omega, by simp only; omega⟩

theorem answerOne_mono {d : Dialect} {lo hi hi' : Db} (hm : PromMono hi hi') {s : Subm} {c : Cpl}
    (h : AnswerOne d lo hi s c) : AnswerOne d lo hi' s c := by
  cases s <;> cases c <;> simp only [AnswerOne] at h ⊢
  case store.store tx rs =>
    obtain ⟨db, db', h1, h2, h3, h4⟩ := h
    exact ⟨db, db', h1, h2, h3, h4.trans hm⟩

/-- What every step other than this thread's own run does to `TInv`: the database moves forward (`hm`), the clock advances
    (`hc`), pending submissions of the thread's name only go (`hp`), and a completion of its name that is newly queued answers
    the pending submission of the same name (`hq`, second alternative: a store batch or a router / sender completion). -/
theorem tinv_mono {d : Dialect} {db db' : Db} {P P' : List (SubId × Subm)} {Q Q' : List (SubId × Cpl)} {clk clk' : Time} {th : Thread}
    (h : TInv d db P Q clk th) (hm : PromMono db db') (hc : clk ≤ clk') (hp : ∀ e ∈ P', e.1.tid = th.tid → e ∈ P)
    (hq : ∀ e ∈ Q', e.1.tid = th.tid → e ∈ Q ∨ ∃ sub, (e.1, sub) ∈ P ∧ ∀ lo, PromMono lo db → AnswerOne d lo db' sub e.2) :
    TInv d db' P' Q' clk' th := by
  obtain ⟨hs, hrs, hdp, subs, k, lo, now, base, hco, hne, hnp, hak, hlo, hnow, hseq, hslots, hpend, hcq⟩ := h
  refine ⟨hs, hrs, hdp, subs, k, lo, now, base, hco, hne, hnp, hak, hlo.trans hm, Int.le_trans hnow hc, hseq,
    slotsOk_mono (fun s c hsc => answerOne_mono hm hsc) _ _ _ hslots, fun e he htid => hpend e (hp e he htid) htid, ?_⟩
  intro e he htid
  rcases hq e he htid with hold | ⟨sub, hsub, hans⟩
  · -- queued before: it answered at its position relative to `db`, hence relative to the later `db'`
    obtain ⟨hpos, hlt⟩ := hcq e hold htid
    exact ⟨cplOk_iff.mpr fun i s hs hq => answerOne_mono hm (cplOk_iff.mp hpos i s hs hq), hlt⟩
  · -- newly queued: the pending submission of that name IS the submission at its position (`SubOk`), and `e.2` answers it
    obtain ⟨hpos, hlt⟩ := hpend (e.1, sub) hsub htid
    exact ⟨cplOk_iff.mpr fun i s hs hq => subOk_iff.mp hpos i s hs hq ▸ hans lo hlo, hlt⟩

def TidsDistinct (l : List String) : Prop := l.Pairwise (fun a b => a ≠ b)

/-- candidates with distinct names, the blocked ones satisfying `TInv` and the resumed or new ones `Runnable`: after
    `runAll` no assertion event was emitted, nothing halted, and every thread satisfies `TInv` relative to everything
    dispatched (what another candidate dispatched carries another name) -/
theorem runAll_spec (d : Dialect) (db : Db) (Q : List (SubId × Cpl)) (t : Time) (P : List (SubId × Subm))
    (cands : List (Thread × Bool)) (hd : TidsDistinct (cands.map (·.1.tid)))
    (hc : ∀ c ∈ cands, (c.2 = false → TInv d db P Q t c.1) ∧ (c.2 = true → Runnable d db P Q t c.1)) :
    (∀ e ∈ (runAll t cands).2.1, e.isAssert = false) ∧
    (∀ e ∈ (runAll t cands).2.2.1, ∀ tx, e.2 = .store tx → KN tx) ∧
    TidsDistinct ((runAll t cands).1.map (·.tid)) ∧
    (∀ x ∈ (runAll t cands).1, TInv d db (P ++ (runAll t cands).2.2.1) Q t x) ∧
    (runAll t cands).2.2.2 = none := by
  have h1 : ∀ c ∈ cands, (∀ e ∈ (ranOf t c).2.1, e.isAssert = false) ∧ (∀ e ∈ (ranOf t c).2.2.1, ∀ tx, e.2 = .store tx → KN tx) ∧
      (ranOf t c).2.2.2 = none ∧ ∀ x, (ranOf t c).1 = some x → TInv d db (P ++ (ranOf t c).2.2.1) Q t x := by
    intro c hcm
    unfold ranOf
    split
    · rename_i hb
      -- the fuel suffices: `maxDepth + 2 ≤ fuelPerThread`
      exact run_spec d db P Q t fuelPerThread c.1 ((hc c hcm).2 hb) _ (quick_of_depth ((hc c hcm).2 hb).dp) (by decide)
    · rename_i hb
      refine ⟨fun e he => (by cases he), fun e he => (by cases he), rfl, fun x hx => ?_⟩
      injection hx with hx
      rw [← hx, List.append_nil]
      exact (hc c hcm).1 (by simpa using hb)
  rw [runAll_eq]
  refine ⟨fun e he => ?_, fun e he => ?_, ?_, fun x hx => ?_, ?_⟩
  · obtain ⟨c, hcm, hce⟩ := List.mem_flatMap.mp he
    exact (h1 c hcm).1 e hce
  · obtain ⟨c, hcm, hce⟩ := List.mem_flatMap.mp he
    exact (h1 c hcm).2.1 e hce
  · exact List.pairwise_map.mpr ((List.pairwise_map.mp hd).filterMap _ fun c c' hne x hx x' hx' => by
      rw [(ranOf_tids t c).1 x hx, (ranOf_tids t c').1 x' hx']; exact hne)
  · obtain ⟨c, hcm, hcx⟩ := List.mem_filterMap.mp hx
    refine tinv_mono ((h1 c hcm).2.2.2 x hcx) (PromMono.refl _) (Int.le_refl _) (fun e he htid => ?_) fun e he _ => .inl he
    rcases List.mem_append.mp he with he | he
    · exact List.mem_append_left _ he
    · -- dispatched under the name of `x`, hence by the candidate `x` stems from
      obtain ⟨c', hcm', hce⟩ := List.mem_flatMap.mp he
      rw [(ranOf_tids t c').2 e hce, (ranOf_tids t c).1 x hcx] at htid
      rw [pairwise_unique _ (List.pairwise_map.mp hd) hcm' hcm htid] at hce
      exact List.mem_append_right _ hce
  · exact List.findSome?_eq_none_iff.mpr fun c hcm => (h1 c hcm).2.2.1

/-- a queued completion answers at its position (`TInv.blocked`, last clause), so the slot it fills stays answered -/
theorem fillSlot_tinv {d : Dialect} {db : Db} {P : List (SubId × Subm)} {Q : List (SubId × Cpl)} {clk : Time} {th : Thread}
    (h : TInv d db P Q clk th) {e : SubId × Cpl} (he : e ∈ Q) (htid : e.1.tid = th.tid) : TInv d db P Q clk (fillSlot th e.1.seq e.2) := by
  obtain ⟨hs, hrs, hdp, subs, k, lo, now, base, hco, hne, hnp, hak, hlo, hnow, hseq, hslots, hpend, hcq⟩ := h
  exact ⟨hs.of_eq, hrs, hdp, subs, k, lo, now, base, hco, hne, hnp, hak, hlo, hnow, hseq,
    slotsOk_fill e.1.seq e.2 subs base th.slots hslots (hcq e he htid).1, hpend, hcq⟩

theorem resume_runnable {d : Dialect} {db : Db} {P : List (SubId × Subm)} {Q : List (SubId × Cpl)} {clk t : Time} {th th' : Thread}
    (h : TInv d db P Q clk th) (hc : clk ≤ t) (hr : th.resume? t = some th') : Runnable d db P Q t th' := by
  obtain ⟨hs, hrs, hdp, subs, k, lo, now, base, hco, hne, hnp, hak, hlo, hnow, hseq, hslots, hpend, hcq⟩ := h
  obtain ⟨subs', k', hco', rfl⟩ := resume?_eq_some hr
  rw [hco] at hco' hrs hdp
  injection hco' with e1 e2
  subst e1; subst e2
  -- the continuation is given completions that answer the submissions: a slot not filled counts as `err`
  obtain ⟨hnp', hak', hrs', hdp'⟩ := yield_next hnp hak hrs hdp hlo (Int.le_trans hnow hc) _ ((answers_iff d lo db _ _).mpr
    (slotsOk_answers_err (fun s => answerOne_err d lo db s) subs base th.slots hslots))
  exact ⟨hs.of_eq, hnp', hak', fun e he ht => (hpend e he ht).2, fun e he ht => (hcq e he ht).2, hrs', hdp'⟩

theorem newThread_runnable {d : Dialect} {db : Db} {P : List (SubId × Subm)} {Q : List (SubId × Cpl)} {t : Time}
    {tid : String} {isBg : Option BgKind} {body : Time → Co} (hst : Static d (newThread tid isBg body))
    (hp : ∀ e ∈ P, e.1.tid ≠ tid) (hq : ∀ e ∈ Q, e.1.tid ≠ tid) : Runnable d db P Q t (newThread tid isBg body) :=
  -- a new thread's coroutine is `.retry`: its body is entered when the thread is first run
  ⟨hst, .retry _ _, .retry, fun e he h => absurd h (hp e he), fun e he h => absurd h (hq e he), fun _ => .retry, .retry _⟩

/-- a request whose coroutine reaches no assertion (what `C13.request_never_panics` proves of every validated request) -/
def ReqOk (d : Dialect) (env : Env) (r : Req) : Prop := ∀ t0 t lo now, NoPanic d lo now ((r.body env t0) t)
/-- the background coroutines reach no assertion (`C13.background_never_panics`) -/
def BgOk (d : Dialect) (env : Env) : Prop := ∀ (k : BgKind) t0 lo now, t0 ≤ now → NoPanic d lo now (k.body env t0)

/-- the clock does not step back, and thread ids started by this tick are not in use: not by a live thread, a pending
    submission or a queued completion (Proofs/FreshIds.lean derives the second part from fresh request ids) -/
def TickOk (clk : Time) (s : Sys) (t : Time) : Prop :=
  clk ≤ t ∧ TidsDistinct ((s.newThreads t).map (·.tid)) ∧
  ∀ x ∈ (s.newThreads t).map (·.tid), (∀ th ∈ s.threads, th.tid ≠ x) ∧ (∀ e ∈ s.pending, e.1.tid ≠ x) ∧ (∀ e ∈ s.cq, e.1.tid ≠ x)

/-- the delivery invariant (DESIGN §12.7): the store definitions are the specified ones, the database has unique keys,
    pending transactions have the shape `KN`, the run has not halted, every thread is blocked with its slots, pending
    submissions and queued completions aligned with its yield (`TInv`), thread ids are distinct, and queued requests are valid -/
structure KInv (d : Dialect) (clk : Time) (s : Sys) : Prop where
  g : s.g = defs d
  keys : KeysX s.db
  pendK : ∀ e ∈ s.pending, ∀ tx, e.2 = .store tx → KN tx
  halted : s.halted = none
  threads : s.halted = none → ∀ th ∈ s.threads, TInv d s.db s.pending s.cq clk th
  distinct : s.halted = none → TidsDistinct (s.threads.map (·.tid))
  apiQ : ∀ q ∈ s.apiQ, ReqOk d s.env q.2 ∧ q.2.StateOk

theorem kinv_tick (d : Dialect) (s : Sys) (clk t : Time) (hbg : BgOk d s.env) (h : KInv d clk s) (hok : TickOk clk s t) :
    KInv d t (s.tick t).1 ∧ ∀ e ∈ (s.tick t).2, e.isAssert = false := by
  rw [tick_eq2, h.halted]
  obtain ⟨hclk, hnew1, hnew2⟩ := hok
  -- the new threads: nothing pending or queued carries their name
  have hnewR : ∀ th ∈ s.newThreads t, Runnable d s.db s.pending s.cq t th := by
    intro th hth
    obtain ⟨_, hp, hq⟩ := hnew2 th.tid (List.mem_map_of_mem hth)
    rcases newThreads_cases hth with ⟨tid, k, rfl⟩ | ⟨q, hq', rfl⟩
    · exact newThread_runnable ⟨hbg k, kn_bg s.env k, nofun, dp_bg s.env k, qk_bg s.env k⟩ hp hq
    · have hv := h.apiQ q (List.mem_of_mem_take hq')
      exact newThread_runnable ⟨fun t' lo now _ => hv.1 t t' lo now, fun t' => kn_req s.env q.2 t t' hv.2, fun _ => rs_req s.env q.2 t,
        dp_req s.env q.2 t, qk_req s.env q.2 t⟩ hp hq
  -- the candidates by where they come from: delivered to, left alone (the clock advances), resumed, new
  have hc := cands_ind s t (B := TInv d s.db s.pending s.cq clk) (B' := TInv d s.db s.pending s.cq t) (R := Runnable d s.db s.pending s.cq t)
    (h.threads h.halted)
    (fun th hth dc hdc htid => fillSlot_tinv hth (List.mem_of_mem_take hdc) htid)
    (fun th hth => tinv_mono hth (PromMono.refl _) hclk (fun e he _ => he) fun e he _ => .inl he)
    (fun th th' hth hr => resume_runnable hth hclk hr) hnewR
  have hcd : TidsDistinct ((s.cands t).map (·.1.tid)) := by
    rw [cands_tids]
    exact List.pairwise_append.mpr ⟨h.distinct h.halted, hnew1, fun a ha b hb =>
      (List.mem_map.mp ha).elim fun th hth => hth.2 ▸ (hnew2 b hb).1 th hth.1⟩
  obtain ⟨hev, hdispKN, hdistinct, htinv, hhalt⟩ := runAll_spec d s.db s.cq t s.pending (s.cands t) hcd hc
  refine ⟨{ h with
      pendK := fun e he => (List.mem_append.mp he).elim (h.pendK e) (hdispKN e)
      halted := hhalt
      -- the delivered completions leave the queue
      threads := fun _ x hx => tinv_mono (htinv x hx) (PromMono.refl _) (Int.le_refl _) (fun e he _ => he)
        fun e he _ => .inl (List.mem_of_mem_drop he)
      distinct := fun _ => hdistinct
      apiQ := fun q hq => h.apiQ q (List.mem_of_mem_drop hq) },
    fun e he => (List.mem_append.mp he).elim ((startReqs_new _ _ _ _).2 e) (hev e)⟩

theorem kinv_execStore (d : Dialect) (s : Sys) (clk : Time) (items : List (SubId × FailMode)) (h : KInv d clk s) :
    KInv d clk (s.execStore items).1 := by
  rw [execStore_eq]
  obtain ⟨hkeys, hmono, hcpl⟩ := batch_spec s items (R := PromMono) PromMono.refl (fun _ _ _ => PromMono.trans) (I := KeysX) (Pt := KN)
    (fun db db' cs rs => execTx_lift _ _ PromMono.refl (fun _ _ _ => PromMono.trans) (h.g ▸ promMono_exec d) cs db db' rs)
    (fun db db' cs rs hi hc hx => keysX_execTx d cs db db' rs hi hc.1 (h.g ▸ hx)) h.keys h.pendK
  refine { h with keys := hkeys, pendK := fun e he => h.pendK e (List.mem_filter.mp he).1, threads := fun hn th hth => ?_ }
  refine tinv_mono (h.threads hn th hth) hmono (Int.le_refl _) (fun e he _ => (List.mem_filter.mp he).1)
    fun e he _ => (List.mem_append.mp he).imp id fun he => ?_
  obtain ⟨tx, hmem, herr | ⟨rs, hst, dbi, dbi', hpre, hki, hx, hpost⟩⟩ := hcpl e he
  · exact ⟨_, hmem, fun lo _ => herr ▸ answerOne_err d lo _ _⟩
  · -- the transaction ran on an intermediate database between the one the coroutine last saw and the batch's last
    exact ⟨_, hmem, fun lo hlo => hst ▸ ⟨dbi, dbi', hlo.trans hpre, hki.keys, h.g ▸ hx, hpost⟩⟩

def KindOk : Subm → Cpl → Prop
  | _, .err => True
  | .router _, .router _ _ => True
  | .sender _, .sender _ => True
  | _, _ => False

theorem answerOne_of_kindOk (d : Dialect) (lo hi : Db) {s : Subm} {c : Cpl} (h : KindOk s c) : AnswerOne d lo hi s c := by
  cases s <;> cases c <;> simp_all [KindOk, AnswerOne]

/-- what a run must respect for the model's naming of submissions to be faithful and for the front ends' validation
    to have happened: submitted requests are ones whose coroutine reaches no assertion (`ReqOk`, discharged for every
    validated request in Properties/C13.lean); the clock does not step back; thread ids started by a tick are fresh;
    a router / sender completion is one of that subsystem (the harness feeds what the real subsystem answered) -/
def StepOk (d : Dialect) (clk : Time) (s : Sys) : Choice → Prop
  | .submit _ r => ReqOk d s.env r ∧ r.StateOk
  | .tick t => TickOk clk s t
  | .complete id c => ∀ e ∈ s.pending, e.1 = id → KindOk e.2 c
  | _ => True

def clkAfter (clk : Time) : Choice → Time
  | .tick t => t
  | _ => clk

def RunOk (d : Dialect) : Time → Sys → List Choice → Prop
  | _, _, [] => True
  | clk, s, c :: cs => StepOk d clk s c ∧ RunOk d (clkAfter clk c) (s.step c).1 cs

/-- everything the system emits along a run -/
def Sys.runEvents : Sys → List Choice → List Event
  | _, [] => []
  | s, c :: cs => (s.step c).2 ++ Sys.runEvents (s.step c).1 cs

theorem kinv_step (d : Dialect) (s : Sys) (clk : Time) (c : Choice) (hbg : BgOk d s.env) (h : KInv d clk s) (hok : StepOk d clk s c) :
    KInv d (clkAfter clk c) (s.step c).1 ∧ ∀ e ∈ (s.step c).2, e.isAssert = false := by
  cases c with
  | submit tid r =>
    rcases submit_cases s tid r with ⟨e, he⟩ | he <;> rw [he]
    · exact ⟨h, fun e he => List.mem_singleton.mp he ▸ rfl⟩
    · exact ⟨{ h with apiQ := fun q hq => (List.mem_append.mp hq).elim (h.apiQ q) fun hq => by rw [List.mem_singleton.mp hq]; exact hok },
        List.forall_mem_nil _⟩
  | tick t => exact kinv_tick d s clk t hbg h hok
  | execStore items => exact ⟨kinv_execStore d s clk items h, List.forall_mem_nil _⟩
  | complete id cp =>
    rcases complete_cases s id cp with he | ⟨sub, hm, he⟩ <;> rw [he]
    · exact ⟨h, List.forall_mem_nil _⟩
    · -- the completion handed in answers the pending submission it names: it is of that subsystem's kind
      refine ⟨{ h with pendK := fun e he => h.pendK e (List.mem_filter.mp he).1, threads := fun hn th hth => ?_ }, List.forall_mem_nil _⟩
      refine tinv_mono (h.threads hn th hth) (PromMono.refl _) (Int.le_refl _) (fun e he _ => (List.mem_filter.mp he).1)
        fun e he _ => (List.mem_append.mp he).imp (fun h => h) fun he => ?_
      rw [List.mem_singleton.mp he]
      exact ⟨sub, hm, fun lo _ => answerOne_of_kindOk d lo _ (hok _ hm rfl)⟩
  | shutdown => exact ⟨{ h with }, List.forall_mem_nil _⟩
  | crash =>
    exact ⟨⟨h.g, h.keys, List.forall_mem_nil _, rfl, fun _ => List.forall_mem_nil _, fun _ => List.Pairwise.nil, List.forall_mem_nil _⟩,
      List.forall_mem_nil _⟩

/-- a store batch of the kernel never trips an assertion of the store (which, in the Go code, would panic the store's
    worker goroutine): every pending transaction has the shape `NA` -/
theorem execStore_no_assert (d : Dialect) (s : Sys) (clk : Time) (items : List (SubId × FailMode)) (h : KInv d clk s) (m : String) :
    (s.execStore items).2 ≠ some (.assertion m) := by
  rw [execStore_eq]
  rcases batchOf_cases s items with ⟨e, hbe, hx⟩ | ⟨rss, hok, _⟩
  · rw [hbe]
    intro hh
    injection hh with hh
    rw [h.g, hh] at hx
    exact execTxs_no_assert (defs d) _ s.db
      (fun tx htx => (txsOf_pending s items tx htx).elim fun id hm => (h.pendK _ hm tx rfl).2) m hx
  · rw [hok]; intro hh; cases hh

/-- the store errors reported along a run -/
def Sys.runErrs : Sys → List Choice → List StoreErr
  | _, [] => []
  | s, c :: cs =>
    (match c with
      | .execStore items => (match (s.execStore items).2 with | some e => [e] | none => [])
      | _ => []) ++ Sys.runErrs (s.step c).1 cs

theorem run_safe (d : Dialect) : ∀ (cs : List Choice) (s : Sys) (clk : Time), BgOk d s.env → KInv d clk s → RunOk d clk s cs →
    (∀ e ∈ s.runEvents cs, e.isAssert = false) ∧ (∀ e ∈ s.runErrs cs, ∀ m, e ≠ .assertion m) ∧ ∃ clk', KInv d clk' (s.run cs) := by
  intro cs
  induction cs with
  | nil => intro s clk _ h _; exact ⟨fun e he => (by cases he), fun e he => (by cases he), clk, h⟩
  | cons c cs ih =>
    intro s clk hbg h hok
    obtain ⟨h1, h2⟩ := kinv_step d s clk c hbg h hok.1
    obtain ⟨i1, i2, i3⟩ := ih (s.step c).1 (clkAfter clk c) (by rw [step_env]; exact hbg) h1 hok.2
    refine ⟨fun e he => (List.mem_append.mp he).elim (h2 e) (i1 e), fun e he m => ?_, i3⟩
    rcases List.mem_append.mp he with he | he
    · cases c with
      | execStore items =>
        cases hx : (s.execStore items).2 with
        | none => simp [hx] at he
        | some e' =>
          simp only [hx, List.mem_singleton] at he
          exact fun hh => execStore_no_assert d s clk items h m (by rw [hx, ← he, hh])
      | _ => cases he
    · exact i2 e he m

/-- **no run ever emits an assertion event.** -/
theorem run_no_assert (d : Dialect) : ∀ (cs : List Choice) (s : Sys) (clk : Time), BgOk d s.env → KInv d clk s → RunOk d clk s cs →
    (∀ e ∈ s.runEvents cs, e.isAssert = false) ∧ ∃ clk', KInv d clk' (s.run cs) :=
  fun cs s clk hbg h hok => ⟨(run_safe d cs s clk hbg h hok).1, (run_safe d cs s clk hbg h hok).2.2⟩

theorem run_store_no_assert (d : Dialect) : ∀ (cs : List Choice) (s : Sys) (clk : Time), BgOk d s.env → KInv d clk s → RunOk d clk s cs →
    ∀ e ∈ s.runErrs cs, ∀ m, e ≠ .assertion m :=
  fun cs s clk hbg h hok => (run_safe d cs s clk hbg h hok).2.1

/-- **no run ever halts**: neither on an assertion nor by exhausting the per-thread fuel of the model -/
theorem run_never_halts (d : Dialect) (cs : List Choice) (s : Sys) (clk : Time) (hbg : BgOk d s.env) (h : KInv d clk s)
    (hok : RunOk d clk s cs) : (s.run cs).halted = none := by
  obtain ⟨_, clk', h'⟩ := run_no_assert d cs s clk hbg h hok
  exact h'.halted

theorem kinv_boot (d : Dialect) (env : Env) (db : Db) (clk : Time) (hk : KeysX db) : KInv d clk (Sys.boot env d (defs d) db) :=
  ⟨rfl, hk, List.forall_mem_nil _, rfl, fun _ => List.forall_mem_nil _, fun _ => List.Pairwise.nil, List.forall_mem_nil _⟩

end Resonate
