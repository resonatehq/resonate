/-
  Proofs/ResolveLemmas.lean — the scanner accepts what the encoder writes (strings), so that the sender reads
  back the logical name the router stored.
-/
import Resonate.Model.Resolve
import Resonate.Proofs.JsonRoundTrip
namespace Resonate.JsonScan
open Resonate.Json

theorem isHex_hexDigit (d : Nat) (h : d < 16) : isHex (hexDigit d) = true := by
  rw [isHex, hexVal_hexDigit d h]; rfl

/-! ### what `strRest` accepts: one lemma per input shape -/

theorem scanEsc_shortEsc {c e : Char} (h : (c, e) ∈ shortEsc) : "\"\\/bfnrt".toList.contains e = true :=
  (by decide : ∀ p ∈ shortEsc, "\"\\/bfnrt".toList.contains p.2 = true) (c, e) h

theorem strRest_esc (e : Char) (r : List Char) (h : "\"\\/bfnrt".toList.contains e = true) :
    strRest ('\\' :: e :: r) = strRest r := by
  have he : e ≠ 'u' := by intro hu; rw [hu] at h; cases h
  rw [strRest.eq_4 e r (fun _ _ _ _ _ h _ => he h), if_pos h]

theorem strRest_hex4 (n : Nat) (r : List Char) : strRest ('\\' :: 'u' :: hex4 n ++ r) = strRest r := by
  have m (k : Nat) : isHex (hexDigit (k % 16)) = true := isHex_hexDigit _ (Nat.mod_lt _ (by decide))
  show strRest ('\\' :: 'u' :: _ :: _ :: _ :: _ :: r) = _
  rw [strRest.eq_3, m, m, m, m]; rfl

theorem strRest_plain (c : Char) (r : List Char) (hq : c ≠ '"') (hb : c ≠ '\\') (hge : ¬ c.toNat < 32) :
    strRest (c :: r) = strRest r := by
  rw [strRest.eq_5 c r hq (fun _ _ _ _ _ h _ => hb h) (fun _ _ h _ => hb h), if_neg hge]

theorem strRest_encChar (c : Char) (rest : List Char) : strRest (encChar c ++ rest) = strRest rest := by
  rcases encChar_cases c with ⟨e, he, h⟩ | ⟨-, h⟩ | ⟨hq, hb, hge, h⟩ <;> rw [h]
  · exact strRest_esc e rest (scanEsc_shortEsc he)
  · exact strRest_hex4 _ rest
  · exact strRest_plain c rest hq hb hge

theorem strRest_encBody (cs rest : List Char) : strRest (encBody cs ++ '"' :: rest) = some rest := by
  induction cs with
  | nil => exact strRest.eq_2 rest
  | cons c cs ih => rw [encBody_cons, List.append_assoc, strRest_encChar, ih]

theorem skipWs_encStr (s : List Char) : skipWs (encStr s) = encStr s :=
  if_neg (by decide)

theorem topKind_encStr (s : List Char) : topKind (encStr s) = some .str := by
  have h : strRest (encBody s ++ ['"']) = some [] := strRest_encBody s []
  rw [topKind, skipWs_encStr]
  simp [encStr, scanValue, h, skipWs]

end Resonate.JsonScan
