/-
  Proofs/TxShape.lean — the shape of what the coroutines submit to the store, as four syntactic predicates on a
  transaction, each the hypothesis of one store-level invariant:
  `WfC` (block structure: CbInv, C05), `KOk` (key invariants: Proofs/KeysInv.lean), `NA` (the handlers' own assertions:
  Proofs/NoStoreAssert.lean), `UOk` (disciplined task updates: TaskMono, C07).  `TxOk` is their conjunction, which
  Proofs/Walk.lean establishes for every transaction of every coroutine in one pass.
-/
import Resonate.Model.Coroutines
import Resonate.Proofs.Wf
namespace Resonate
open Coro

def WfC (tx : List Cmd) : Prop := wfCore tx = true ∧ tx ≠ []

/-- not of the form `__invoke:<id>` -/
def NotInvoke (s : String) : Prop := ∀ id, s ≠ invokeId id

/-- the shape of one command as the coroutines emit it — the hypothesis under which a command keeps `KeysX`
    (Proofs/KeysInv.lean): a bare `CreateTask` could create an invocation task without its promise (`Keys.invoke`), a
    registration with an invocation-shaped id would later become such a task -/
def cmdKOk : Cmd → Prop
  | .createTask _ => False
  | .createCallback c => NotInvoke c.id
  | .createPromiseAndTask c => c.taskCommand.id = invokeId c.promiseCommand.id
  | _ => True

def KOk (tx : List Cmd) : Prop := ∀ c ∈ tx, cmdKOk c

def taskCmdNA (c : CreateTaskCmd) : Prop := (c.state = 1 ∨ c.state = 4) ∧ (c.state = 4 → c.processId.isSome = true)

def cmdNA : Cmd → Prop
  | .searchPromises c => c.id ≠ ""
  | .searchSchedules c => c.id ≠ ""
  | .updatePromise c => promiseStateOk c.state = true
  | .readTasks c => c.states ≠ []
  | .createTask c => taskCmdNA c
  | .createPromiseAndTask c => taskCmdNA c.taskCommand
  | .updateTask c => c.currentStates ≠ []
  | _ => True

def NA (tx : List Cmd) : Prop := tx ≠ [] ∧ ∀ c ∈ tx, cmdNA c

def cmdUOk : Cmd → Prop
  | .updateTask c => wfUpdateTask c = true
  | _ => True

def UOk (tx : List Cmd) : Prop := ∀ c ∈ tx, cmdUOk c

/-- task states the store ever writes -/
def legalTask (s : Nat) : Bool := s == 1 || s == 2 || s == 4 || s == 8 || s == 16
def LegalRes : Res → Prop
  | .tasks rows => ∀ r ∈ rows, legalTask r.state = true
  | _ => True
def LegalCpl : Cpl → Prop
  | .store rs => ∀ r ∈ rs, LegalRes r
  | _ => True

/-- a state the store writes that has one of the three live bits is a live state (the bit test alone admits 9) -/
theorem active_of_legal {s : Nat} (hl : legalTask s = true) (hb : s &&& (T_INIT ||| T_ENQUEUED ||| T_CLAIMED) ≠ 0) :
    taskStateActive s = true := by
  simp only [legalTask, Bool.or_eq_true, beq_iff_eq] at hl
  rcases hl with (((h | h) | h) | h) | h <;> simp [h, taskStateActive, T_INIT, T_ENQUEUED, T_CLAIMED] at hb ⊢

/-- what front-end validation guarantees about a request, as far as the block structure needs it -/
def Req.StateOk : Req → Prop
  | .completePromise q => promiseStateOk q.state = true
  | _ => True

theorem invokeId_inj {a b : String} (h : invokeId a = invokeId b) : a = b := by
  unfold invokeId at h
  have := congrArg String.toList h
  simp only [String.toList_append] at this
  exact String.toList_injective (List.append_cancel_left this)

theorem append_ne_of_prefix_ne {a b : String} (hl : a.toList.length = b.toList.length) (hne : a ≠ b) (x y : String) :
    a ++ x ≠ b ++ y := fun h =>
  hne (String.toList_injective (List.append_inj (by simpa only [String.toList_append] using congrArg String.toList h) hl).1)

theorem notInvoke_callbackId (root leaf : String) : NotInvoke (callbackId root leaf) := fun id h =>
  append_ne_of_prefix_ne (a := "__resume:") (b := "__invoke:") (by decide) (by decide) (root ++ ":" ++ leaf) id
    (by rw [← String.append_assoc, ← String.append_assoc]; exact h)

theorem notInvoke_subscriptionId (pid id : String) : NotInvoke (subscriptionId pid id) := fun x h =>
  append_ne_of_prefix_ne (a := "__notify:") (b := "__invoke:") (by decide) (by decide) (pid ++ ":" ++ id) x
    (by rw [← String.append_assoc, ← String.append_assoc]; exact h)

theorem promiseStateOk_timedoutState (tags : SMap) : promiseStateOk (timedoutState tags) = true := by
  unfold timedoutState; split <;> decide

/-- commands that may stand anywhere in a `wfCore` transaction: the free ones (`Cmd.free`, Proofs/Wf.lean) and `UpdateTask`,
    on which `wfCore` — unlike `wfCmds` — puts no condition -/
def Cmd.loose : Cmd → Bool
  | .updateTask _ => true
  | c => c.free

theorem wfCore_cons_loose {c : Cmd} (h : c.loose = true) (cs : List Cmd) : wfCore (c :: cs) = wfCore cs := by
  cases c <;> first | rfl | cases h

theorem wfCore_loose : ∀ (tx : List Cmd), (∀ c ∈ tx, c.loose = true) → wfCore tx = true
  | [], _ => rfl
  | c :: cs, h => by
    rw [wfCore_cons_loose (h c (List.mem_cons_self ..))]
    exact wfCore_loose cs (fun x hx => h x (List.mem_cons_of_mem _ hx))

theorem Cmd.free_loose {c : Cmd} (h : c.free = true) : c.loose = true := by
  cases c <;> first | rfl | cases h

theorem wfC_free (tx : List Cmd) (hne : tx ≠ []) (h : ∀ c ∈ tx, c.free = true) : WfC tx :=
  ⟨wfCore_loose tx fun c hc => Cmd.free_loose (h c hc), hne⟩

theorem wfC_updateTasks (cs : List UpdateTaskCmd) (hne : cs ≠ []) : WfC (cs.map Cmd.updateTask) :=
  ⟨wfCore_loose _ (by intro c hc; obtain ⟨x, _, rfl⟩ := List.mem_map.mp hc; rfl), by simpa using hne⟩

/-- one command as a coroutine submits it.  `valid`: the request passed the front ends' validation of its completion
    state (`Req.StateOk`); `legal`: the completions the coroutine was resumed with carry task states the store writes
    (`LegalCpl`).  Only `completePromise` needs the first and only the lease sweep the second. -/
structure CmdOk (valid legal : Prop) (c : Cmd) : Prop where
  k : cmdKOk c
  u : legal → cmdUOk c
  na : valid → cmdNA c

structure TxOk (valid legal : Prop) (tx : List Cmd) : Prop where
  ne : tx ≠ []
  cmds : ∀ c ∈ tx, CmdOk valid legal c
  wf : valid → wfCore tx = true

def SubsOk (valid legal : Prop) (subs : List Subm) : Prop := ∀ tx, Subm.store tx ∈ subs → TxOk valid legal tx

variable {valid legal : Prop}

theorem TxOk.kOk {tx : List Cmd} (h : TxOk valid legal tx) : KOk tx := fun c hc => (h.cmds c hc).k
theorem TxOk.uOk {tx : List Cmd} (h : TxOk valid legal tx) (hl : legal) : UOk tx := fun c hc => (h.cmds c hc).u hl
theorem TxOk.wfC {tx : List Cmd} (h : TxOk valid legal tx) (hv : valid) : WfC tx := ⟨h.wf hv, h.ne⟩
theorem TxOk.nA {tx : List Cmd} (h : TxOk valid legal tx) (hv : valid) : NA tx := ⟨h.ne, fun c hc => (h.cmds c hc).na hv⟩

/-- commands on which none of the four predicates puts a condition: the free ones except the two searches, `ReadTasks`
    (`NA` wants a pattern / a state set) and `CreateCallback` (`KOk` wants an id that is not invocation-shaped) -/
def Cmd.plain : Cmd → Bool
  | .searchPromises _ | .searchSchedules _ | .readTasks _ | .createCallback _ => false
  | c => c.free

theorem CmdOk.of_plain {c : Cmd} (h : c.plain = true) : CmdOk valid legal c := by
  cases c <;> first | exact ⟨trivial, fun _ => trivial, fun _ => trivial⟩ | cases h

theorem Cmd.plain_loose {c : Cmd} (h : c.plain = true) : c.loose = true := by
  cases c <;> first | rfl | cases h

theorem CmdOk.updateTask {c : UpdateTaskCmd} (hne : c.currentStates ≠ []) (h : legal → wfUpdateTask c = true) :
    CmdOk valid legal (.updateTask c) := ⟨trivial, h, fun _ => hne⟩

theorem TxOk.of_loose {tx : List Cmd} (hne : tx ≠ []) (h : ∀ c ∈ tx, c.loose = true ∧ CmdOk valid legal c) : TxOk valid legal tx :=
  ⟨hne, fun c hc => (h c hc).2, fun _ => wfCore_loose tx (fun c hc => (h c hc).1)⟩

/-- for a transaction written out in the model, `h` is `rfl` -/
theorem TxOk.of_plain {tx : List Cmd} (hne : tx ≠ []) (h : tx.all Cmd.plain = true) : TxOk valid legal tx :=
  .of_loose hne fun c hc => ⟨Cmd.plain_loose (List.all_eq_true.mp h c hc), .of_plain (List.all_eq_true.mp h c hc)⟩

theorem TxOk.one {c : Cmd} (hl : c.loose = true) (h : CmdOk valid legal c) : TxOk valid legal [c] :=
  .of_loose (List.cons_ne_nil _ _) (by intro x hx; rw [List.mem_singleton.mp hx]; exact ⟨hl, h⟩)

theorem TxOk.map {α} {l : List α} {f : α → Cmd} (hne : l ≠ []) (h : ∀ x ∈ l, (f x).loose = true ∧ CmdOk valid legal (f x)) :
    TxOk valid legal (l.map f) :=
  .of_loose (by simpa using hne) (by intro c hc; obtain ⟨x, hx, rfl⟩ := List.mem_map.mp hc; exact h x hx)

theorem TxOk.completeTx (cmd : UpdatePromiseCmd) (t : Time) (h : valid → promiseStateOk cmd.state = true) :
    TxOk valid legal (completeTx cmd t) := by
  -- the four commands are exactly one completion block (`WfBlocks.block`, Proofs/Wf.lean), with nothing after it
  refine ⟨List.cons_ne_nil _ _, ?_, fun hv => wfBlocks_iff.mpr (.block cmd _ _ (h hv) .nil)⟩
  intro c hc
  simp only [Coro.completeTx, List.mem_cons, List.not_mem_nil, or_false] at hc
  rcases hc with rfl | rfl | rfl | rfl
  · exact ⟨trivial, fun _ => trivial, h⟩
  all_goals exact ⟨trivial, fun _ => trivial, fun _ => trivial⟩

theorem TxOk.timeoutTx (id : String) (p : Promise) (t : Time) : TxOk valid legal (Coro.completeTx (timeoutCmd id p) t) :=
  .completeTx _ _ (fun _ => promiseStateOk_timedoutState _)

theorem TxOk.promiseAndTask {pc : CreatePromiseCmd} {tc : CreateTaskCmd} (hid : tc.id = invokeId pc.id) (hr : tc.mesg.root = pc.id)
    (hs : tc.state = 1 ∨ (tc.state = 4 ∧ tc.processId.isSome = true)) {rest : List Cmd}
    (h : ∀ c ∈ rest, c.loose = true ∧ CmdOk valid legal c) :
    TxOk valid legal (.createPromiseAndTask ⟨pc, tc⟩ :: rest) := by
  -- the store's assertion on a created task: state init or claimed, and a claimed one names its process
  have hna : taskCmdNA tc := by
    rcases hs with h1 | ⟨h4, hp⟩
    · exact ⟨.inl h1, fun h4 => absurd (h1.symm.trans h4) (by decide)⟩
    · exact ⟨.inr h4, fun _ => hp⟩
  refine ⟨List.cons_ne_nil _ _, ?_, fun _ => ?_⟩
  · intro c hc
    rcases List.mem_cons.mp hc with rfl | hc
    · exact ⟨hid, fun _ => trivial, fun _ => hna⟩
    · exact (h c hc).2
  · show (wfPromiseAndTask ⟨pc, tc⟩ && wfCore rest) = true
    rw [wfCore_loose rest fun c hc => (h c hc).1]
    simpa [wfPromiseAndTask] using ⟨hr, hs⟩

theorem SubsOk.one {tx : List Cmd} (h : TxOk valid legal tx) : SubsOk valid legal [.store tx] := by
  intro tx' hm
  simp only [List.mem_singleton, Subm.store.injEq] at hm
  exact hm ▸ h

theorem SubsOk.map {α} {l : List α} {f : α → List Cmd} (h : ∀ x ∈ l, TxOk valid legal (f x)) :
    SubsOk valid legal (l.map fun x => .store (f x)) := by
  intro tx hm
  obtain ⟨x, hx, he⟩ := List.mem_map.mp hm
  injection he with he
  exact he ▸ h x hx

end Resonate
