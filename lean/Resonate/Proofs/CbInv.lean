/-
  Proofs/CbInv.lean — no lost wake-ups at the store level (C05):
  `CbInv`: every registration (callbacks row) awaits a promise that exists and is still pending.
  It is an invariant of every well-formed transaction (hence of every batch, every sequence, and —
  a crash leaving the database as it is — every crash point).
-/
import Resonate.Model.SqlSpec
import Resonate.Proofs.Guards
import Resonate.Proofs.Wf
import Resonate.Proofs.Frame
namespace Resonate
open SqlSpec

def CbInv (db : Db) : Prop :=
  ∀ cb ∈ db.callbacks, ∃ p ∈ db.promises, p.id = cb.promiseId ∧ p.state = 1

variable (d : Dialect)

/-- **One command other than `UpdatePromise`.**  Nothing else takes a promise out of pending: the promises table is
    unchanged or grows, and a registration that is added is on a promise its guard has just found pending. -/
theorem cbInv_exec (db db' : Db) (cmd : Cmd) (r : Res) (hcmd : ∀ c, cmd ≠ .updatePromise c) (hi : CbInv db)
    (h : db.exec (defs d) cmd = .ok (db', r)) : CbInv db' := by
  have keep : ∀ p ∈ db.promises, p ∈ db'.promises := by
    intro p hm
    cases exec_promises h with
    | same hp _ => exact hp ▸ hm
    | insert c _ hp _ => exact hp ▸ List.mem_append_left _ hm
    | complete c hc _ _ _ => exact absurd hc (hcmd c)
  have old : ∀ cb ∈ db.callbacks, ∃ p ∈ db'.promises, p.id = cb.promiseId ∧ p.state = 1 := fun cb hm =>
    let ⟨p, hp, hps⟩ := hi cb hm
    ⟨p, keep p hp, hps⟩
  cases exec_callbacks h with
  | same hc => exact fun cb hm => old cb (hc ▸ hm)
  | delete c hc => exact fun cb hm => old cb (List.mem_filter.mp (hc ▸ hm)).1
  | insert c _ hg hc =>
    intro cb hm
    rcases List.mem_append.mp (hc ▸ hm) with hm | hm
    · exact old cb hm
    · obtain ⟨⟨p, hp, hid, hst⟩, _⟩ := (callbackInsert_guard_iff d c db).mp hg
      exact ⟨p, keep p hp, by rw [hid, List.mem_singleton.mp hm]; rfl, hst⟩

/-- **the completion block as a unit**: whatever the state of the promise, after
    `[UpdatePromise id, CompleteTasks id, CreateTasks id, DeleteCallbacks id]` no registration is left
    on a promise that is not pending -/
theorem cbInv_block (db db' : Db) (c : UpdatePromiseCmd) (t1 t2 : Int) (rs : List Res) (hi : CbInv db)
    (h : db.execTx (defs d) [.updatePromise c, .completeTasks ⟨c.id, t1⟩, .createTasks ⟨c.id, t2⟩, .deleteCallbacks ⟨c.id⟩] = .ok (db', rs)) :
    CbInv db' := by
  obtain ⟨hp, hc, _⟩ := completeBlock_ok h
  intro cb hm
  -- the registrations on `c.id` are deleted; what is left awaits another promise, which the UPDATE passes by
  obtain ⟨hm, hne⟩ := List.mem_filter.mp (hc ▸ hm)
  have hne : cb.promiseId ≠ c.id := by simpa [defs, callbackDelete_where] using hne
  obtain ⟨p, hpm, hid, hst⟩ := hi cb hm
  exact ⟨p, hp ▸ (mem_updateWhere ..).mpr ⟨p, hpm, .inr ⟨Bool.eq_false_iff.mpr fun hw => hne (hid.symm.trans ((promiseUpdate_where_iff c p).mp hw).1), rfl⟩⟩, hid, hst⟩

/-- **C05 (invariant).** Every well-formed transaction preserves `CbInv`. -/
theorem cbInv_wfCore (cs : List Cmd) (db db' : Db) (rs : List Res) (hi : CbInv db) (hw : wfCore cs = true)
    (h : db.execTx (defs d) cs = .ok (db', rs)) : CbInv db' :=
  -- the block as a unit; the three other kinds of command are not `UpdatePromise`, which is all `cbInv_exec` asks
  wfCmdsP_inv (fun _ => true) (defs d) CbInv
    (hblock := fun db db' c t1 t2 rs hi _ h => cbInv_block d db db' c t1 t2 rs hi h)
    (hupd := fun db db' c r hi _ h => cbInv_exec d db db' _ r (fun _ => Cmd.noConfusion) hi h)
    (hpt := fun db db' c r hi _ h => cbInv_exec d db db' _ r (fun _ => Cmd.noConfusion) hi h)
    (hfree := fun db db' c r hi hf h => cbInv_exec d db db' c r (fun u hu => by subst hu; cases hf) hi h)
    cs db db' rs hi hw h

end Resonate
