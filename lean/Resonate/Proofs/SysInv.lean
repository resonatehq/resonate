/-
  Proofs/SysInv.lean — Proofs/WInv.lean at `W := WfC`, every completion legal: a database predicate preserved by every
  transaction with the block structure holds in every reachable state.  The only assumption on the choice list is
  `Req.StateOk` for submitted requests (what front-end validation guarantees: a completion state in
  {resolved, rejected, canceled, timed out}).
-/
import Resonate.Proofs.WInv
import Resonate.Proofs.Walk
namespace Resonate

def ThreadOk (th : Thread) : Prop := AllYields WfC th.co ∧ ∀ t, AllYields WfC (th.restart t)

def PendingOk (p : List (SubId × Subm)) : Prop := ∀ x ∈ p, ∀ tx, x.2 = .store tx → WfC tx

structure SysInv (I : Db → Prop) (s : Sys) : Prop where
  db : I s.db
  pending : PendingOk s.pending
  threads : ∀ th ∈ s.threads, ThreadOk th
  apiQ : ∀ q ∈ s.apiQ, q.2.StateOk

def Choice.Ok : Choice → Prop
  | .submit _ r => r.StateOk
  | _ => True

theorem Choice.Ok.toL {c : Choice} (h : c.Ok) : WInv.ChoiceOk (fun _ => True) c := by
  cases c <;> first | exact h | trivial

theorem threadOk_iff (th : Thread) : ThreadOk th ↔ WInv.ThreadOk WfC (fun _ => True) th :=
  ⟨fun h => ⟨WInv.AllYields.toL h.1, fun t => WInv.AllYields.toL (h.2 t), fun _ _ _ _ => trivial⟩,
   fun h => ⟨AllYields.ofL h.1, fun t => AllYields.ofL (h.2.1 t)⟩⟩

theorem sysInv_iff (I : Db → Prop) (s : Sys) : SysInv I s ↔ WInv.SysInv WfC (fun _ => True) I s :=
  ⟨fun h => ⟨h.db, h.pending, fun th hth => (threadOk_iff th).mp (h.threads th hth), h.apiQ, fun _ _ => trivial⟩,
   fun h => ⟨h.db, h.pending, fun th hth => (threadOk_iff th).mpr (h.threads th hth), h.apiQ⟩⟩

theorem threadOk_resume (th th' : Thread) (t : Time) (h : ThreadOk th) (hr : th.resume? t = some th') : ThreadOk th' :=
  (threadOk_iff th').mpr (WInv.threadOk_resume trivial th th' t ((threadOk_iff th).mp h) hr)

variable (I : Db → Prop)

/-- **every reachable state**: any choice list (requests, ticks at any times, store batches of any
    composition and order with any failures, router/sender completions, shutdown, crashes) -/
theorem sysInv_run (cs : List Choice) (s : Sys) (h : SysInv I s) (hcs : ∀ c ∈ cs, c.Ok)
    (hI : ∀ db db' tx rs, I db → WfC tx → db.execTx s.g tx = .ok (db', rs) → I db') : SysInv I (s.run cs) :=
  (sysInv_iff I _).mpr <| WInv.sysInv_run I trivial (fun env k t => WInv.AllYields.toL (ay_bg env k t))
    (fun env r t0 t hr => WInv.AllYields.toL (ay_req env r t0 t hr)) cs s ((sysInv_iff I s).mp h)
    (fun c hc => (hcs c hc).toL)
    (fun db db' tx rs hi hw hx => ⟨hI db db' tx rs hi hw hx, trivial⟩)

theorem sysInv_boot (env : Env) (g : SqlDefs) (db : Db) (hi : I db) :
    SysInv I { env := env, g := g, db := db } :=
  (sysInv_iff I _).mpr (WInv.sysInv_boot I env .sqlite g db hi)

end Resonate
