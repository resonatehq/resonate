/-
  Proofs/KernelEq.lean — the functions of Model/System.lean, each described once, for every proof by induction over a run:
  `Sys.execStore` in named pieces, what its batch does and what its completions are (`completionsOf_spec`, `batch_spec`),
  `Sys.tick` in named pieces (`tick_eq2`), what `Thread.resume?`, `deliverAll`, `runAll`, `startBg`, `startReqs` return, and
  one tick candidate by candidate and thread by thread with the predicate on threads left a variable (`cands_ind`, `tick_ind`).
-/
import Resonate.Model.System
import Resonate.Proofs.Lift
namespace Resonate

def Sys.boot (env : Env) (d : Dialect) (g : SqlDefs) (db : Db := {}) : Sys := { env := env, d := d, g := g, db := db }

/-- `batch_spec` for a list of transactions: for a reflexive transitive `R` that transactions respect and an invariant `I`
    that transactions of shape `Pt` keep, a successful `execTxs` keeps `I`, respects `R`, and every transaction ran, with the
    results at its position, on an intermediate `I`-database between (in the sense of `R`) the first and the last -/
theorem execTxs_each (g : SqlDefs) (R : Db → Db → Prop) (hr : ∀ db, R db db) (ht : ∀ a b c, R a b → R b c → R a c)
    (I : Db → Prop) (Pt : List Cmd → Prop)
    (htx : ∀ db db' cs rs, db.execTx g cs = .ok (db', rs) → R db db')
    (hI : ∀ db db' cs rs, I db → Pt cs → db.execTx g cs = .ok (db', rs) → I db') :
    ∀ (txs : List (List Cmd)) (db db' : Db) (rss : List (List Res)), I db → (∀ tx ∈ txs, Pt tx) → db.execTxs g txs = .ok (db', rss) →
      I db' ∧ R db db' ∧ ∀ p ∈ txs.zip rss, ∃ dbi dbi', R db dbi ∧ I dbi ∧ dbi.execTx g p.1 = .ok (dbi', p.2) ∧ R dbi' db' := by
  intro txs db db' rss hi hp h
  induction db, txs, db', rss, h using execTxs_induct with
  | nil => exact ⟨hi, hr _, fun p hp => by cases hp⟩
  | cons _ h1 _ ih =>
    obtain ⟨hI', hR', hrest⟩ := ih (hI _ _ _ _ hi (hp _ (List.mem_cons_self ..)) h1) fun x hx => hp x (List.mem_cons_of_mem _ hx)
    have h01 := htx _ _ _ _ h1
    refine ⟨hI', ht _ _ _ h01 hR', fun p hpm => ?_⟩
    rcases List.mem_cons.mp hpm with rfl | hpm
    · exact ⟨_, _, hr _, hi, h1, hR'⟩
    · obtain ⟨dbi, dbi', hpre, hran⟩ := hrest p hpm
      exact ⟨dbi, dbi', ht _ _ _ h01 hpre, hran⟩

/-- `l.filterMap f` keeps the positions of `l` when `f` is defined on all of `l` -/
theorem mem_zip_filterMap {α β γ} (f : α → Option β) : ∀ (l : List α) (rs : List γ), (∀ x ∈ l, (f x).isSome = true) →
    ∀ x r, (x, r) ∈ l.zip rs → ∃ y, f x = some y ∧ (y, r) ∈ (l.filterMap f).zip rs := by
  intro l
  induction l with
  | nil => intro rs _ x r h; cases h
  | cons a l ih =>
    intro rs hl x r h
    cases rs with
    | nil => cases h
    | cons r0 rs =>
      cases hfa : f a with
      | none => have := hl a (List.mem_cons_self ..); simp [hfa] at this
      | some b =>
        rw [List.filterMap_cons_some hfa]
        simp only [List.zip_cons_cons, List.mem_cons, Prod.mk.injEq] at h ⊢
        rcases h with ⟨rfl, rfl⟩ | h
        · exact ⟨b, hfa, .inl ⟨rfl, rfl⟩⟩
        · obtain ⟨y, h1, h2⟩ := ih rs (fun x hx => hl x (List.mem_cons_of_mem _ hx)) x r h
          exact ⟨y, h1, .inr h2⟩

/- the names are `C06.*` because Driver/Main.lean runs `C06.txsOf`; they are used by every proof about `Sys.execStore` -/
namespace C06
def pendingTx (s : Sys) (id : SubId) : Option (List Cmd) :=
  match s.pending.find? (fun p => p.1 == id) with
  | some (_, .store tx) => some tx
  | _ => none
def validOf (s : Sys) (items : List (SubId × FailMode)) := items.filter fun it => (pendingTx s it.1).isSome
def processedOf (s : Sys) (items : List (SubId × FailMode)) := (validOf s items).filter fun it => it.2 != .before
def txsOf (s : Sys) (items : List (SubId × FailMode)) := (processedOf s items).filterMap fun it => pendingTx s it.1
def batchOf (s : Sys) (items : List (SubId × FailMode)) : Db × Except StoreErr (List (List Res)) :=
  if (txsOf s items).isEmpty then (s.db, Except.ok []) else s.db.execBatch s.g (txsOf s items)
def okResOf (s : Sys) (items : List (SubId × FailMode)) (rss : List (List Res)) : List (SubId × Cpl) :=
  ((processedOf s items).zip rss).map fun (it, rs) => (it.1, if it.2 == .after then Cpl.err else Cpl.store rs)
def completionsOf (s : Sys) (items : List (SubId × FailMode)) : List (SubId × Cpl) :=
  match (batchOf s items).2 with
  | .error _ => (validOf s items).map fun it => (it.1, Cpl.err)
  | .ok rss =>
    (validOf s items).map fun it =>
      if it.2 == .before then (it.1, Cpl.err)
      else match (okResOf s items rss).find? (fun x => x.1 == it.1) with
        | some x => x
        | none => (it.1, Cpl.err)

end C06

theorem execStore_eq (s : Sys) (items : List (SubId × FailMode)) :
    s.execStore items =
      ({ s with db := (C06.batchOf s items).1, pending := s.pending.filter (fun p => !((C06.validOf s items).any fun it => it.1 == p.1)),
                cq := s.cq ++ C06.completionsOf s items },
       match (C06.batchOf s items).2 with | .error e => some e | .ok _ => none) := rfl

/-- the model skips the store for an empty batch; `Db.execBatch` on no transactions does nothing either -/
theorem batchOf_eq (s : Sys) (items : List (SubId × FailMode)) : C06.batchOf s items = s.db.execBatch s.g (C06.txsOf s items) := by
  unfold C06.batchOf
  split
  · rename_i h; rw [List.isEmpty_iff.mp h]; rfl
  · rfl

theorem batchOf_cases (s : Sys) (items : List (SubId × FailMode)) :
    (∃ e, C06.batchOf s items = (s.db, .error e) ∧ s.db.execTxs s.g (C06.txsOf s items) = .error e) ∨
    ∃ rss, (C06.batchOf s items).2 = .ok rss ∧ s.db.execTxs s.g (C06.txsOf s items) = .ok ((C06.batchOf s items).1, rss) := by
  rw [batchOf_eq]
  unfold Db.execBatch
  cases s.db.execTxs s.g (C06.txsOf s items) with
  | error e => exact .inl ⟨e, rfl, rfl⟩
  | ok p => exact .inr ⟨p.2, rfl, rfl⟩

theorem pendingTx_mem (s : Sys) (id : SubId) (tx : List Cmd) (h : C06.pendingTx s id = some tx) : (id, Subm.store tx) ∈ s.pending := by
  unfold C06.pendingTx at h
  split at h
  · rename_i sid tx' hfp
    injection h with h; subst h
    have he := List.find?_some hfp
    simp only [beq_iff_eq] at he
    rw [← he]; exact List.mem_of_find?_eq_some hfp
  · cases h

theorem txsOf_pending (s : Sys) (items : List (SubId × FailMode)) : ∀ tx ∈ C06.txsOf s items, ∃ id, (id, Subm.store tx) ∈ s.pending := by
  intro tx htx
  obtain ⟨it, _, hf⟩ := List.mem_filterMap.mp htx
  exact ⟨it.1, pendingTx_mem s it.1 tx hf⟩

/-- **the completions of a store batch**: each answers a pending store submission of the same name, with `err` or with
    the result list the batch returned at the position of that submission's transaction -/
theorem completionsOf_spec (s : Sys) (items : List (SubId × FailMode)) : ∀ e ∈ C06.completionsOf s items,
    ∃ tx, (e.1, Subm.store tx) ∈ s.pending ∧
      (e.2 = .err ∨ ∃ rs rss, e.2 = .store rs ∧ s.db.execTxs s.g (C06.txsOf s items) = .ok ((C06.batchOf s items).1, rss) ∧
        (tx, rs) ∈ (C06.txsOf s items).zip rss) := by
  have hvalid : ∀ it ∈ C06.validOf s items, ∃ tx, (it.1, Subm.store tx) ∈ s.pending := fun it hit =>
    (Option.isSome_iff_exists.mp (List.mem_filter.mp hit).2).imp fun tx hf => pendingTx_mem s it.1 tx hf
  intro e he
  unfold C06.completionsOf at he
  split at he
  · obtain ⟨it, hit, rfl⟩ := List.mem_map.mp he
    exact (hvalid it hit).imp fun tx h => ⟨h, .inl rfl⟩
  · rename_i rss hok
    have hexec : s.db.execTxs s.g (C06.txsOf s items) = .ok ((C06.batchOf s items).1, rss) := by
      rcases batchOf_cases s items with ⟨e, hb, _⟩ | ⟨rss', hok', hx⟩
      · rw [hb] at hok; cases hok
      · rw [hok] at hok'; injection hok' with hok'; rw [hok']; exact hx
    obtain ⟨it, hit, rfl⟩ := List.mem_map.mp he
    split
    · exact (hvalid it hit).imp fun tx h => ⟨h, .inl rfl⟩
    · split
      · -- the entry found for `it` stems from a processed item `it'` of the same name, zipped with its result list
        rename_i x hx
        obtain ⟨⟨it', rs⟩, hz, rfl⟩ := List.mem_map.mp (List.mem_of_find?_eq_some hx)
        obtain ⟨tx, hf, hz'⟩ := mem_zip_filterMap (fun it : SubId × FailMode => C06.pendingTx s it.1) (C06.processedOf s items) rss
          (fun it h => (List.mem_filter.mp (List.mem_filter.mp h).1).2) it' rs hz
        refine ⟨tx, pendingTx_mem s it'.1 tx hf, ?_⟩
        dsimp only
        split
        · exact .inl rfl
        · exact .inr ⟨rs, rss, rfl, hexec, hz'⟩
      · exact (hvalid it hit).imp fun tx h => ⟨h, .inl rfl⟩

/-- **one store batch.**  For a reflexive transitive relation `R` that transactions respect, an invariant `I` of the database
    that transactions of shape `Pt` keep, and pending store submissions of shape `Pt`: the batch keeps `I` and respects `R`, and
    each of its completions answers a pending store submission of the same name — with `err`, or with the results of running
    exactly that transaction on an intermediate `I`-database between (in the sense of `R`) the old and the new one -/
theorem batch_spec (s : Sys) (items : List (SubId × FailMode)) (R : Db → Db → Prop) (hr : ∀ db, R db db) (ht : ∀ a b c, R a b → R b c → R a c)
    (I : Db → Prop) (Pt : List Cmd → Prop) (htx : ∀ db db' cs rs, db.execTx s.g cs = .ok (db', rs) → R db db')
    (hI : ∀ db db' cs rs, I db → Pt cs → db.execTx s.g cs = .ok (db', rs) → I db')
    (hi : I s.db) (hp : ∀ e ∈ s.pending, ∀ tx, e.2 = .store tx → Pt tx) :
    I (C06.batchOf s items).1 ∧ R s.db (C06.batchOf s items).1 ∧
    ∀ e ∈ C06.completionsOf s items, ∃ tx, (e.1, Subm.store tx) ∈ s.pending ∧
      (e.2 = .err ∨ ∃ rs, e.2 = .store rs ∧
        ∃ dbi dbi', R s.db dbi ∧ I dbi ∧ dbi.execTx s.g tx = .ok (dbi', rs) ∧ R dbi' (C06.batchOf s items).1) := by
  have hb := fun rss => execTxs_each s.g R hr ht I Pt htx hI (C06.txsOf s items) s.db (C06.batchOf s items).1 rss hi
    (fun tx htx => (txsOf_pending s items tx htx).elim fun id hm => hp _ hm tx rfl)
  have hdb : I (C06.batchOf s items).1 ∧ R s.db (C06.batchOf s items).1 := by
    rcases batchOf_cases s items with ⟨e, hbe, _⟩ | ⟨rss, _, hx⟩
    · rw [hbe]; exact ⟨hi, hr _⟩
    · exact ⟨(hb rss hx).1, (hb rss hx).2.1⟩
  refine ⟨hdb.1, hdb.2, fun e he => ?_⟩
  obtain ⟨tx, hmem, herr | ⟨rs, rss, hst, hx, hz⟩⟩ := completionsOf_spec s items e he
  · exact ⟨tx, hmem, .inl herr⟩
  · exact ⟨tx, hmem, .inr ⟨rs, hst, (hb rss hx).2.2 (tx, rs) hz⟩⟩

theorem submit_cases (s : Sys) (tid : String) (r : Req) :
    (∃ e, s.step (.submit tid r) = (s, [.respond tid e])) ∨ s.step (.submit tid r) = ({ s with apiQ := s.apiQ ++ [(tid, r)] }, []) := by
  rw [Sys.step]
  split
  · exact .inl ⟨_, rfl⟩
  · split
    · exact .inr rfl
    · exact .inl ⟨_, rfl⟩

theorem complete_cases (s : Sys) (id : SubId) (c : Cpl) :
    s.step (.complete id c) = (s, []) ∨
    ∃ sub, (id, sub) ∈ s.pending ∧
      s.step (.complete id c) = ({ s with pending := s.pending.filter (fun p => p.1 != id), cq := s.cq ++ [(id, c)] }, []) := by
  rw [Sys.step]
  split
  · exact .inl rfl
  · rename_i x _ hfind
    have hid : x.1 = id := by simpa using List.find?_some hfind
    exact .inr ⟨x.2, hid ▸ List.mem_of_find?_eq_some hfind, rfl⟩
  · exact .inl rfl

theorem step_frame (s : Sys) (c : Choice) : (s.step c).1.g = s.g ∧ (s.step c).1.env = s.env ∧
    ((s.step c).1.db = s.db ∨ ∃ items, c = .execStore items ∧ (s.step c).1.db = (s.db.execBatch s.g (C06.txsOf s items)).1) := by
  cases c with
  | submit tid r => rcases submit_cases s tid r with ⟨e, he⟩ | he <;> rw [he] <;> exact ⟨rfl, rfl, .inl rfl⟩
  | tick t => rw [Sys.step, Sys.tick]; split <;> exact ⟨rfl, rfl, .inl rfl⟩
  | execStore items => exact ⟨rfl, rfl, .inr ⟨items, rfl, by rw [Sys.step, execStore_eq, batchOf_eq]⟩⟩
  | complete id cp => rcases complete_cases s id cp with he | ⟨_, _, he⟩ <;> rw [he] <;> exact ⟨rfl, rfl, .inl rfl⟩
  | shutdown | crash => exact ⟨rfl, rfl, .inl rfl⟩

theorem step_g (s : Sys) (c : Choice) : (s.step c).1.g = s.g := (step_frame s c).1

theorem step_env (s : Sys) (c : Choice) : (s.step c).1.env = s.env := (step_frame s c).2.1

theorem step_db (s : Sys) (c : Choice) :
    (s.step c).1.db = s.db ∨ ∃ items, c = .execStore items ∧ (s.step c).1.db = (s.db.execBatch s.g (C06.txsOf s items)).1 :=
  (step_frame s c).2.2

theorem filterMap_slots (d : Cpl) : ∀ (slots : List (Nat × Option Cpl)), slots.all (fun s => s.2.isSome) = true →
    slots.filterMap (·.2) = slots.map fun s => s.2.getD d := by
  intro slots
  induction slots with
  | nil => intro _; rfl
  | cons sl sls ih =>
    intro h
    simp only [List.all_cons, Bool.and_eq_true] at h
    cases hsl : sl.2 with
    | none => simp [hsl] at h
    | some c => rw [List.filterMap_cons_some hsl, ih h.2, List.map_cons, hsl]; rfl

/-- a thread is resumed with the completions in its slots, a slot not filled yet counting as failed (when every slot is
    filled that is the list of its completions) -/
theorem resume?_eq_some {th th' : Thread} {t : Time} (h : th.resume? t = some th') :
    ∃ subs k, th.co = .yield subs k ∧ th' = { th with co := k t (th.slots.map fun s => s.2.getD .err), slots := [] } := by
  unfold Thread.resume? at h
  split at h
  · -- no slots: not waiting
    cases h
  · split at h
    · -- every slot filled: the completions are the slots' contents, which is the `getD` form when none is empty
      rename_i hall
      split at h
      · rename_i subs k hco
        injection h with h
        exact ⟨subs, k, hco, by rw [← h, filterMap_slots .err _ hall]⟩
      · cases h
    · split at h
      · -- a request whose first unfilled-or-failed slot is a failed one: resumed early, the unfilled slots counting as `err`
        split at h
        · rename_i subs k hco
          injection h with h
          exact ⟨subs, k, hco, h.symm⟩
        · cases h
      · cases h

theorem resume_tid (th th' : Thread) (t : Time) (h : th.resume? t = some th') : th'.tid = th.tid := by
  obtain ⟨_, _, _, rfl⟩ := resume?_eq_some h; rfl

theorem deliverAll_ind {P : Thread → Prop} : ∀ (dcs : List (SubId × Cpl)) (ths : List Thread),
    (∀ th, P th → ∀ dc ∈ dcs, dc.1.tid = th.tid → P (fillSlot th dc.1.seq dc.2)) → (∀ th ∈ ths, P th) →
    ∀ th ∈ deliverAll ths dcs, P th := by
  intro dcs
  induction dcs with
  | nil => intro ths _ h; exact h
  | cons dc rest ih =>
    intro ths hf h
    refine ih _ (fun th hp dc' hdc' => hf th hp dc' (List.mem_cons_of_mem _ hdc')) ?_
    intro th hth
    obtain ⟨th0, h0, rfl⟩ := List.mem_map.mp hth
    split
    · rename_i htid
      exact hf th0 (h th0 h0) dc (List.mem_cons_self ..) (beq_iff_eq.mp htid).symm
    · exact h th0 h0

theorem deliverAll_map {β} (f : Thread → β) (hf : ∀ th seq c, f (fillSlot th seq c) = f th) :
    ∀ (dcs : List (SubId × Cpl)) (ths : List Thread), (deliverAll ths dcs).map f = ths.map f := by
  intro dcs
  induction dcs with
  | nil => intro ths; rfl
  | cons dc rest ih =>
    intro ths
    rw [deliverAll, ih, List.map_map]
    apply List.map_congr_left
    intro th _
    simp only [Function.comp]
    split
    · exact hf ..
    · rfl

def dispOf (tid : String) : Nat → List Subm → List (SubId × Subm)
  | _, [] => []
  | b, s :: ss => (⟨tid, b⟩, s) :: dispOf tid (b + 1) ss

def freshSlots : Nat → List Subm → List (Nat × Option Cpl)
  | _, [] => []
  | b, _ :: ss => (b, none) :: freshSlots (b + 1) ss

theorem disp_eq (tid : String) : ∀ (subs : List Subm) (b : Nat),
    ((((List.range subs.length).map fun i => b + i).zip subs).map fun (x : Nat × Subm) => (({ tid := tid, seq := x.1 } : SubId), x.2))
      = dispOf tid b subs := by
  intro subs
  induction subs with
  | nil => intro b; rfl
  | cons s ss ih =>
    intro b
    rw [dispOf, ← ih (b + 1), ← List.range'_eq_map_range, ← List.range'_eq_map_range]
    rfl

theorem slots_eq : ∀ (subs : List Subm) (b : Nat),
    (((List.range subs.length).map fun i => b + i).map fun i => ((i, none) : Nat × Option Cpl)) = freshSlots b subs := by
  intro subs
  induction subs with
  | nil => intro b; rfl
  | cons s ss ih =>
    intro b
    rw [freshSlots, ← ih (b + 1), ← List.range'_eq_map_range, ← List.range'_eq_map_range]
    rfl

theorem run_tids (t : Time) (fuel : Nat) (th : Thread) :
    (∀ x, (th.run t fuel).1 = some x → x.tid = th.tid) ∧ ∀ e ∈ (th.run t fuel).2.2.1, e.1.tid = th.tid := by
  -- the cases of `Thread.run`, here and wherever `fun_induction Thread.run` is used: 1 out of fuel; 2 request done with a
  -- response; 3 request done without one; 4 background done; 5 panic; 6 retry; 7 empty yield (continues at once); 8 blocking yield
  fun_induction Thread.run th t fuel with
  | case1 th => exact ⟨fun x h => (by injection h with h; rw [← h]), fun _ h => (by cases h)⟩
  | case2 | case3 | case4 | case5 => exact ⟨fun _ h => (by cases h), fun _ h => (by cases h)⟩
  | case6 _ _ _ ih | case7 _ _ _ _ _ _ ih => exact ih
  | case8 th _ subs k =>
    refine ⟨fun x h => (by injection h with h; rw [← h]), fun e he => ?_⟩
    obtain ⟨x, _, rfl⟩ := List.mem_map.mp he
    rfl

theorem run_tid (t : Time) : ∀ (fuel : Nat) (th : Thread) (x : Thread), (th.run t fuel).1 = some x → x.tid = th.tid :=
  fun fuel th => (run_tids t fuel th).1

/-- what one candidate of a tick contributes; one that is not resumed stays as it is -/
def ranOf (t : Time) (c : Thread × Bool) : Option Thread × List Event × List (SubId × Subm) × Option String :=
  if c.2 then c.1.run t fuelPerThread else (some c.1, [], [], none)

theorem runAll_eq (t : Time) : ∀ (cands : List (Thread × Bool)), runAll t cands =
    (cands.filterMap fun c => (ranOf t c).1, cands.flatMap fun c => (ranOf t c).2.1,
     cands.flatMap fun c => (ranOf t c).2.2.1, cands.findSome? fun c => (ranOf t c).2.2.2) := by
  intro cands
  induction cands with
  | nil => rfl
  | cons c rest ih =>
    obtain ⟨th, b⟩ := c
    cases b with
    | false => simp only [runAll, ih, ranOf, List.filterMap_cons, List.flatMap_cons, List.findSome?_cons]; rfl
    | true =>
      simp only [runAll, ih, ranOf, List.filterMap_cons, List.flatMap_cons, List.findSome?_cons, if_true]
      cases h1 : (th.run t fuelPerThread).1 <;> cases h2 : (th.run t fuelPerThread).2.2.2 <;> simp

theorem ranOf_tids (t : Time) (c : Thread × Bool) :
    (∀ x, (ranOf t c).1 = some x → x.tid = c.1.tid) ∧ ∀ e ∈ (ranOf t c).2.2.1, e.1.tid = c.1.tid := by
  unfold ranOf
  split
  · exact run_tids t _ _
  · exact ⟨fun x h => (by injection h with h; rw [← h]), fun e he => (by cases he)⟩

/-- one entry of the registry at a tick: its kind stays, its record of the last start stays or — only if it is due — becomes
    `t`; if a coroutine is started for it, it carries the name `<kind>:<t>` and the record is `t` -/
theorem startBg_cons (env : Env) (en dr : Bool) (live : List Thread) (t : Time) (b : BgState) (rest : List BgState) (cnt : Nat) :
    ∃ b' ths cnt', startBg env en dr live t (b :: rest) cnt =
        (b' :: (startBg env en dr live t rest cnt').1, ths ++ (startBg env en dr live t rest cnt').2.1, (startBg env en dr live t rest cnt').2.2) ∧
      b'.kind = b.kind ∧ (b'.last = b.last ∨ (b'.last = t ∧ env.cfg.signalTimeout ≤ t - b.last)) ∧
      (ths = [] ∨ (ths = [newThread (bgName b.kind ++ ":" ++ toString t) (some b.kind) (b.kind.body env)] ∧ b'.last = t ∧
        env.cfg.signalTimeout ≤ t - b.last)) := by
  simp only [startBg]
  split
  · rename_i hcond
    have hdue : env.cfg.signalTimeout ≤ t - b.last := by
      simp only [Bool.and_eq_true, decide_eq_true_eq] at hcond
      exact hcond.1.2
    split
    · exact ⟨_, [_], cnt + 1, rfl, rfl, .inr ⟨rfl, hdue⟩, .inr ⟨rfl, rfl, hdue⟩⟩
    · exact ⟨_, [], cnt, rfl, rfl, .inr ⟨rfl, hdue⟩, .inl rfl⟩
  · exact ⟨_, [], cnt, rfl, rfl, .inl rfl, .inl rfl⟩

theorem startBg_sublist (env : Env) (en dr : Bool) (live : List Thread) (t : Time) : ∀ (bs : List BgState) (cnt : Nat),
    (startBg env en dr live t bs cnt).2.1.Sublist
      (bs.map fun b => newThread (bgName b.kind ++ ":" ++ toString t) (some b.kind) (b.kind.body env)) := by
  intro bs
  induction bs with
  | nil => intro _; exact .slnil
  | cons b rest ih =>
    intro cnt
    obtain ⟨b', ths, cnt', he, _, _, hths⟩ := startBg_cons env en dr live t b rest cnt
    rw [he]
    rcases hths with rfl | ⟨rfl, _⟩
    · exact (ih _).cons _
    · exact (ih _).cons_cons _

theorem startBg_new (env : Env) (en dr : Bool) (live : List Thread) (t : Time) (bs : List BgState) (cnt : Nat) :
    ∀ th ∈ (startBg env en dr live t bs cnt).2.1, ∃ tid k, th = newThread tid (some k) (k.body env) := fun _ h =>
  (List.mem_map.mp ((startBg_sublist env en dr live t bs cnt).subset h)).elim fun _ hb => ⟨_, _, hb.2.symm⟩

theorem startBg_kinds (env : Env) (en dr : Bool) (live : List Thread) (t : Time) :
    ∀ (bs : List BgState) (cnt : Nat), (startBg env en dr live t bs cnt).1.map (·.kind) = bs.map (·.kind) := by
  intro bs
  induction bs with
  | nil => intro cnt; rfl
  | cons b rest ih =>
    intro cnt
    obtain ⟨b', ths, cnt', he, hk, _⟩ := startBg_cons env en dr live t b rest cnt
    rw [he, List.map_cons, List.map_cons, ih cnt', hk]

theorem ite_rotate1_perm {α} (c : Bool) (l : List α) : (if c then rotate1 l else l).Perm l := by
  split
  · cases l with
    | nil => exact .refl _
    | cons a as => exact List.perm_append_comm
  · exact .refl l

theorem rotate1_map {α β} (f : α → β) (l : List α) : (rotate1 l).map f = rotate1 (l.map f) := by
  cases l <;> simp [rotate1]

/-- an assertion event: a `util.Assert` / nil dereference site reached by a coroutine, or a request coroutine that
    finished without a response -/
def Event.isAssert : Event → Bool
  | .panic _ _ => true
  | _ => false

theorem startReqs_cons (env : Env) (t : Time) (a : String × Req) (q : List (String × Req)) (cnt : Nat) :
    startReqs env t (a :: q) cnt =
      if cnt < env.cfg.coroutineMaxSize then (newThread a.1 none (a.2.body env t) :: (startReqs env t q (cnt + 1)).1, (startReqs env t q (cnt + 1)).2)
      else ((startReqs env t q cnt).1, .respond a.1 (.error S_SCHEDULER_QUEUE_FULL) :: (startReqs env t q cnt).2) := by
  rw [startReqs]

/-- the request coroutines a tick starts, in the order of the dequeued submissions; a refusal is a response, not an assertion -/
theorem startReqs_spec (env : Env) (t : Time) : ∀ (qs : List (String × Req)) (cnt : Nat),
    (startReqs env t qs cnt).1.Sublist (qs.map fun q => newThread q.1 none (q.2.body env t)) ∧
      ∀ e ∈ (startReqs env t qs cnt).2, e.isAssert = false := by
  intro qs
  induction qs with
  | nil => intro _; exact ⟨.slnil, List.forall_mem_nil _⟩
  | cons q rest ih =>
    intro cnt
    rw [startReqs_cons]
    split
    · exact ⟨(ih _).1.cons_cons _, (ih _).2⟩
    · exact ⟨(ih _).1.cons _, fun e he => (List.mem_cons.mp he).elim (fun e' => e' ▸ rfl) ((ih _).2 e)⟩

theorem startReqs_new (env : Env) (t : Time) :
    ∀ (qs : List (String × Req)) (cnt : Nat), (∀ th ∈ (startReqs env t qs cnt).1, ∃ q ∈ qs, th = newThread q.1 none (q.2.body env t)) ∧
      (∀ e ∈ (startReqs env t qs cnt).2, e.isAssert = false) := fun qs cnt =>
  ⟨fun _ h => (List.mem_map.mp ((startReqs_spec env t qs cnt).1.subset h)).imp fun _ hq => ⟨hq.1, hq.2.symm⟩, (startReqs_spec env t qs cnt).2⟩

def Sys.threads1 (s : Sys) : List Thread := deliverAll s.threads (s.cq.take s.env.cfg.completionBatchSize)
def Sys.sb (s : Sys) (t : Time) := startBg s.env s.bgEnabled (s.apiDone && s.apiQ.isEmpty) s.threads1 t s.bg 0
def Sys.sr (s : Sys) (t : Time) :=
  startReqs s.env t (s.apiQ.take (dequeueCount s.env.cfg.submissionBatchSize s.apiQ.length)) (s.sb t).2.2
def Sys.newThreads (s : Sys) (t : Time) : List Thread := (s.sb t).2.1 ++ (s.sr t).1
def Sys.cands (s : Sys) (t : Time) : List (Thread × Bool) :=
  s.threads1.map (fun th => match th.resume? t with | some th' => (th', true) | none => (th, false))
    ++ (s.newThreads t).map (fun th => (th, true))

theorem tick_eq2 (s : Sys) (t : Time) :
    s.tick t =
      if s.halted.isSome then (s, []) else
      ({ s with threads := (runAll t (s.cands t)).1,
                apiQ := s.apiQ.drop (dequeueCount s.env.cfg.submissionBatchSize s.apiQ.length),
                cq := s.cq.drop s.env.cfg.completionBatchSize,
                bg := (if bgRefused s.env s.bgEnabled (s.apiDone && s.apiQ.isEmpty) s.threads1 t s.bg 0 then rotate1 (s.sb t).1 else (s.sb t).1),
                pending := s.pending ++ (runAll t (s.cands t)).2.2.1, halted := (runAll t (s.cands t)).2.2.2 },
       (s.sr t).2 ++ (runAll t (s.cands t)).2.1) := rfl

theorem cands_fst (s : Sys) (t : Time) :
    (s.cands t).map (·.1) = s.threads1.map (fun th => (th.resume? t).getD th) ++ s.newThreads t := by
  simp only [Sys.cands, List.map_append, List.map_map]
  congr 1
  · apply List.map_congr_left
    intro th _
    simp only [Function.comp]
    cases th.resume? t <;> rfl
  · exact List.map_id _

theorem cands_tids (s : Sys) (t : Time) : (s.cands t).map (·.1.tid) = s.threads.map (·.tid) ++ (s.newThreads t).map (·.tid) := by
  have : (s.cands t).map (·.1.tid) = ((s.cands t).map (·.1)).map (·.tid) := by rw [List.map_map]; rfl
  rw [this, cands_fst, List.map_append, List.map_map, ← deliverAll_map (·.tid) (fun _ _ _ => rfl) (s.cq.take s.env.cfg.completionBatchSize) s.threads]
  congr 1
  apply List.map_congr_left
  intro th _
  simp only [Function.comp]
  cases hr : th.resume? t with
  | none => rfl
  | some th' => exact resume_tid th th' t hr

theorem newThreads_cases {s : Sys} {t : Time} {th : Thread} (h : th ∈ s.newThreads t) :
    (∃ tid k, th = newThread tid (some k) (k.body s.env)) ∨
    ∃ q ∈ s.apiQ.take (dequeueCount s.env.cfg.submissionBatchSize s.apiQ.length), th = newThread q.1 none (q.2.body s.env t) :=
  (List.mem_append.mp h).imp (startBg_new _ _ _ _ _ _ _ th) ((startReqs_new _ _ _ _).1 th)

/-- **the candidates of a tick, by where they come from.**  The old threads satisfy `B`, which delivery of a queued completion
    to a thread of that name keeps; a candidate that is not run is such a thread and satisfies `B'`; one that is run is such a
    thread resumed, or new, and satisfies `R` -/
theorem cands_ind (s : Sys) (t : Time) {B B' R : Thread → Prop}
    (hold : ∀ th ∈ s.threads, B th)
    (hfill : ∀ th, B th → ∀ dc ∈ s.cq.take s.env.cfg.completionBatchSize, dc.1.tid = th.tid → B (fillSlot th dc.1.seq dc.2))
    (hstay : ∀ th, B th → B' th)
    (hres : ∀ th th', B th → th.resume? t = some th' → R th')
    (hnew : ∀ th ∈ s.newThreads t, R th) :
    ∀ c ∈ s.cands t, (c.2 = false → B' c.1) ∧ (c.2 = true → R c.1) := by
  have h1 := deliverAll_ind _ s.threads hfill hold
  intro c hc
  rcases List.mem_append.mp hc with hc | hc
  · obtain ⟨th, hth, rfl⟩ := List.mem_map.mp hc
    cases hr : th.resume? t with
    | none => exact ⟨fun _ => hstay th (h1 th hth), nofun⟩
    | some th' => exact ⟨nofun, fun _ => hres th th' (h1 th hth) hr⟩
  · obtain ⟨th, hth, rfl⟩ := List.mem_map.mp hc
    exact ⟨nofun, fun _ => hnew th hth⟩

/-- **one tick, thread by thread.**  A predicate `P` on threads holds of every thread after the tick, and `D` of every
    submission the tick dispatches, as soon as delivery of a queued completion to a thread of that name, resumption, and
    the start of a background or request coroutine lead from `P` to `P`, and running a `P`-thread leaves a `P`-thread
    and dispatches `D`-submissions.  (`P` may speak of the state after the tick: then `hold` is the step from the old
    state's predicate.) -/
theorem tick_ind (s : Sys) (t : Time) {P : Thread → Prop} {D : SubId × Subm → Prop}
    (hold : ∀ th ∈ s.threads, P th)
    (hfill : ∀ th, P th → ∀ dc ∈ s.cq.take s.env.cfg.completionBatchSize, dc.1.tid = th.tid → P (fillSlot th dc.1.seq dc.2))
    (hres : ∀ th th', P th → th.resume? t = some th' → P th')
    (hnew : ∀ th ∈ s.newThreads t, P th)
    (hrun : ∀ th, P th → (∀ x, (th.run t fuelPerThread).1 = some x → P x) ∧ ∀ e ∈ (th.run t fuelPerThread).2.2.1, D e) :
    (∀ th ∈ (runAll t (s.cands t)).1, P th) ∧ ∀ e ∈ (runAll t (s.cands t)).2.2.1, D e := by
  have hc : ∀ c ∈ s.cands t, P c.1 := fun c hcm =>
    have h := cands_ind s t hold hfill (fun _ h => h) hres hnew c hcm
    (Bool.eq_false_or_eq_true c.2).elim h.2 h.1
  rw [runAll_eq]
  refine ⟨fun x hx => ?_, fun e he => ?_⟩
  · obtain ⟨c, hcm, hcx⟩ := List.mem_filterMap.mp hx
    unfold ranOf at hcx
    split at hcx
    · exact (hrun c.1 (hc c hcm)).1 x hcx
    · exact Option.some.inj hcx ▸ hc c hcm
  · obtain ⟨c, hcm, hce⟩ := List.mem_flatMap.mp he
    unfold ranOf at hce
    split at hce
    · exact (hrun c.1 (hc c hcm)).2 e hce
    · cases hce

end Resonate
