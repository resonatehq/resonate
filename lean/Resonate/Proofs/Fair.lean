/-
  Proofs/Fair.lean — every background sweep gets its turn, for every size of the scheduler's in-queue ≥ 1.

  `system.Tick` offers the due background coroutines to the scheduler in registration order; the scheduler's in-queue
  holds `coroutineMaxSize` entries per tick.  Before the fix of finding F17 a queue smaller than five let the first
  entries take the slots on every tick: the later sweeps never ran.  The fix rotates the registration list by one
  whenever a due coroutine was refused.  This file proves that this is enough: over consecutive cycles in which every
  registered sweep is due and its previous instance has finished, the sweep registered at position `i` is started at
  cycle `i` at the latest — so within `len` (= five) cycles every sweep has run, for every in-queue size ≥ 1.
-/
import Resonate.Proofs.KernelEq
namespace Resonate

/-- the sweep `b` is offered to the scheduler at tick `t`: the signal timeout has passed since its last start and its
    previous instance has finished -/
def BgDue (env : Env) (live : List Thread) (t : Time) (b : BgState) : Prop :=
  env.cfg.signalTimeout ≤ t - b.last ∧ bgRunningDone live b = true

/-- kinds of the sweeps a call of `startBg` starts -/
def startedKinds (ths : List Thread) : List (Option BgKind) := ths.map (·.isBg)

theorem startBg_all_due (env : Env) (live : List Thread) (t : Time) :
    ∀ (bgs : List BgState) (cnt n : Nat), cnt + n = env.cfg.coroutineMaxSize → (∀ b ∈ bgs, BgDue env live t b) →
      startedKinds (startBg env true false live t bgs cnt).2.1 = (bgs.take n).map (fun b => some b.kind) ∧
      bgRefused env true false live t bgs cnt = decide (n < bgs.length) := by
  intro bgs
  induction bgs with
  | nil => intro cnt n _ _; exact ⟨by rw [List.take_nil]; rfl, (decide_eq_false (Nat.not_lt_zero _)).symm⟩
  | cons b rest ih =>
    intro cnt n hn h
    have hb := h b (List.mem_cons_self)
    have hr : ∀ x ∈ rest, BgDue env live t x := fun x hx => h x (List.mem_cons_of_mem _ hx)
    have hcond : (true && !false && decide (t - b.last ≥ env.cfg.signalTimeout) && bgRunningDone live b) = true := by
      simp [hb.1, hb.2]
    rw [startBg, bgRefused, if_pos hcond, if_pos hcond, List.length_cons]
    cases n with
    | zero =>
      -- no slot: `b` is refused; so is the rest
      have hc : ¬ cnt < env.cfg.coroutineMaxSize := by rw [← hn]; exact Nat.lt_irrefl _
      rw [if_neg hc, if_neg hc]
      exact ⟨(ih cnt 0 hn hr).1, (decide_eq_true (Nat.succ_pos _)).symm⟩
    | succ n =>
      -- a slot is free: `b` is started, one slot fewer for the rest
      have hc : cnt < env.cfg.coroutineMaxSize := by rw [← hn]; exact Nat.lt_add_of_pos_right (Nat.succ_pos _)
      obtain ⟨i1, i3⟩ := ih (cnt + 1) n (by rw [← hn, Nat.add_right_comm]; rfl) hr
      rw [if_pos hc, if_pos hc, i3]
      exact ⟨congrArg (some b.kind :: ·) i1, decide_eq_decide.mpr Nat.succ_lt_succ_iff.symm⟩

/-- the registry after one tick (`Sys.tick`: `bg''`) and the sweeps it started -/
def cycleBg (env : Env) (live : List Thread) (t : Time) (bgs : List BgState) : List BgState × List Thread :=
  let r := startBg env true false live t bgs 0
  (if bgRefused env true false live t bgs 0 then rotate1 r.1 else r.1, r.2.1)

/-- one cycle in which every registered sweep is due: the first `coroutineMaxSize` of the registry are started, and the
    registry is rotated by one exactly when some sweep was refused -/
theorem cycle_all_due (env : Env) (live : List Thread) (t : Time) (bgs : List BgState) (h : ∀ b ∈ bgs, BgDue env live t b) :
    startedKinds (cycleBg env live t bgs).2 = (bgs.take env.cfg.coroutineMaxSize).map (fun b => some b.kind) ∧
    (cycleBg env live t bgs).1.map (·.kind) =
      if env.cfg.coroutineMaxSize < bgs.length then rotate1 (bgs.map (·.kind)) else bgs.map (·.kind) := by
  obtain ⟨i1, i3⟩ := startBg_all_due env live t bgs 0 _ (Nat.zero_add _) h
  refine ⟨i1, ?_⟩
  simp only [cycleBg, i3, decide_eq_true_eq]
  split
  · rw [rotate1_map, startBg_kinds]
  · exact startBg_kinds env true false live t bgs 0

theorem rotate1_getElem? {α} (l : List α) (i : Nat) (h : i + 1 < l.length) : (rotate1 l)[i]? = l[i + 1]? := by
  cases l with
  | nil => rfl
  | cons x xs =>
    rw [rotate1, List.getElem?_append_left (Nat.lt_of_succ_lt_succ h), List.getElem?_cons_succ]

/-- **the fairness argument, on lists.**  A list of which the first `M ≥ 1` entries are served each round, and which is
    rotated by one after every round that could not serve all of it: the entry at position `i` is served in round `i`.
    When rounds rotate, the entry moves up one place per round (induction on `i`, looking at the rounds from round 1 on) and
    is first in round `i`; when they do not, the list fits into `M` and stays as it is. -/
theorem served_in_round {α} (M : Nat) (hM : 0 < M) : ∀ (i : Nat) (ks : Nat → List α),
    (∀ j, ks (j + 1) = if M < (ks j).length then rotate1 (ks j) else ks j) → ∀ a, (ks 0)[i]? = some a → a ∈ (ks i).take M := by
  intro i
  induction i with
  | zero =>
    intro ks _ a ha
    obtain ⟨m, rfl⟩ := Nat.exists_eq_succ_of_ne_zero (Nat.ne_of_gt hM)
    cases h0 : ks 0 with
    | nil => rw [h0] at ha; cases ha
    | cons b rest => rw [h0] at ha; cases ha; exact List.mem_cons_self
  | succ i ih =>
    intro ks hs a ha
    have hi : i + 1 < (ks 0).length := by
      apply Nat.lt_of_not_le; intro hge; rw [List.getElem?_eq_none hge] at ha; cases ha
    by_cases hsmall : M < (ks 0).length
    · exact ih (fun j => ks (j + 1)) (fun j => hs (j + 1)) a (by rw [hs 0, if_pos hsmall, rotate1_getElem? _ _ hi]; exact ha)
    · have hc : ∀ j, ks j = ks 0 := by
        intro j
        induction j with
        | zero => rfl
        | succ j ihj => rw [hs j, ihj, if_neg hsmall]
      rw [hc, List.take_of_length_le (Nat.le_of_not_lt hsmall)]
      exact List.mem_of_getElem? ha

/-- **every sweep gets its turn.**  Over consecutive cycles `0, 1, 2, …` of the registry (`regs (j+1)` is what the tick of
    cycle `j` leaves) in which every registered sweep is due, with an in-queue of at least one entry, the sweep registered
    at position `i` at cycle 0 is among those started at cycle `i` — whatever the in-queue size, the clock values and the
    live threads.  (With an in-queue of five or more every sweep is started in every cycle.) -/
theorem every_sweep_gets_its_turn (env : Env) (hmax : 0 < env.cfg.coroutineMaxSize)
    (ts : Nat → Time) (lives : Nat → List Thread) (regs : Nat → List BgState)
    (hstep : ∀ j, regs (j + 1) = (cycleBg env (lives j) (ts j) (regs j)).1)
    (hdue : ∀ j, ∀ b ∈ regs j, BgDue env (lives j) (ts j) b)
    (i : Nat) (hi : i < (regs 0).length) :
    some ((regs 0)[i]).kind ∈ startedKinds (cycleBg env (lives i) (ts i) (regs i)).2 := by
  -- `cycle_all_due`: a cycle serves the first `coroutineMaxSize` kinds of the registry and rotates it when one was refused
  have hs : ∀ j, (regs (j + 1)).map (·.kind) =
      if env.cfg.coroutineMaxSize < ((regs j).map (·.kind)).length then rotate1 ((regs j).map (·.kind)) else (regs j).map (·.kind) := by
    intro j; rw [hstep j, (cycle_all_due env _ _ _ (hdue j)).2, List.length_map]
  have := served_in_round _ hmax i (fun j => (regs j).map (·.kind)) hs (regs 0)[i].kind
    (by rw [List.getElem?_map, List.getElem?_eq_getElem hi]; rfl)
  rw [(cycle_all_due env _ _ _ (hdue i)).1]
  rw [← List.map_take] at this
  obtain ⟨b, hb, hk⟩ := List.mem_map.mp this
  exact List.mem_map.mpr ⟨b, hb, congrArg some hk⟩

end Resonate
