/-
  Proofs/SitesPin.lean — inventory of every util.Assert / panic / Must site on the request path
  (front ends, kernel, coroutines, router, sender, plugins), pinned against what translate/gofacts
  extracts from /repo on this run.  A new assertion or panic in the code changes `Gen.sites` and this
  pin stops checking, so no new crash site can appear unnoticed (C13).  `expectedSites` is the
  inventory the model's `panic` leaves and the C13 exclusions were written against.
-/
import Resonate.Generated.Sites
namespace Resonate
open Gen

def expectedSites : List (String × String) := [
  ("internal/aio/aio.go", "Signal: assert a.buffer == nil"),
  ("internal/aio/aio.go", "Dispatch: assert submission.Tags != nil"),
  ("internal/aio/aio.go", "Dispatch: assert submission.Tags[\"id\"] != \"\""),
  ("internal/aio/aio.go", "EnqueueSQE: panic"),
  ("internal/aio/aio.go", "EnqueueSQE: assert completion != nil && err == nil || completion == nil && err != nil"),
  ("internal/aio/aio.go", "EnqueueCQE: assert cqe != nil"),
  ("internal/aio/aio_dst.go", "Signal: panic"),
  ("internal/aio/aio_dst.go", "Flush: panic"),
  ("internal/aio/aio_dst.go", "Dispatch: assert submission.Tags != nil"),
  ("internal/aio/aio_dst.go", "Dispatch: assert submission.Tags[\"id\"] != \"\""),
  ("internal/aio/aio_dst.go", "EnqueueSQE: assert completion != nil && err == nil || completion == nil && err != nil"),
  ("internal/api/api.go", "Signal: assert a.buffer == nil"),
  ("internal/api/api.go", "EnqueueSQE: assert sqe.Submission != nil"),
  ("internal/api/api.go", "EnqueueSQE: assert sqe.Submission.Tags != nil"),
  ("internal/api/api.go", "EnqueueSQE: assert (res != nil) != (err != nil)"),
  ("internal/api/api.go", "EnqueueSQE: assert errors.As(err, &error)"),
  ("internal/api/api.go", "EnqueueCQE: assert cqe.Callback != nil"),
  ("internal/api/api.go", "EnqueueCQE: assert (cqe.Completion != nil) != (cqe.Error != nil)"),
  ("internal/app/coroutines/acquireLock.go", "AcquireLock: assert completion.Store != nil"),
  ("internal/app/coroutines/acquireLock.go", "AcquireLock: assert result.RowsAffected == 0 || result.RowsAffected == 1"),
  ("internal/app/coroutines/acquireLock.go", "AcquireLock: assert res != nil"),
  ("internal/app/coroutines/claimTask.go", "ClaimTask: assert r.ClaimTask.ProcessId != \"\""),
  ("internal/app/coroutines/claimTask.go", "ClaimTask: assert r.ClaimTask.Ttl >= 0"),
  ("internal/app/coroutines/claimTask.go", "ClaimTask: panic"),
  ("internal/app/coroutines/claimTask.go", "ClaimTask: assert completion.Store != nil"),
  ("internal/app/coroutines/claimTask.go", "ClaimTask: assert result.RowsReturned == 0 || result.RowsReturned == 1"),
  ("internal/app/coroutines/claimTask.go", "ClaimTask: assert completion.Store != nil"),
  ("internal/app/coroutines/claimTask.go", "ClaimTask: assert result.RowsAffected == 0 || result.RowsAffected == 1"),
  ("internal/app/coroutines/claimTask.go", "ClaimTask: assert completion.Store != nil"),
  ("internal/app/coroutines/claimTask.go", "ClaimTask: assert len(completion.Store.Results) == len(commands)"),
  ("internal/app/coroutines/claimTask.go", "ClaimTask: assert completion.Store.Results[0].ReadPromise != nil"),
  ("internal/app/coroutines/claimTask.go", "ClaimTask: assert t.Mesg.Type != message.Resume || completion.Store.Results[1].ReadPromise != nil"),
  ("internal/app/coroutines/claimTask.go", "ClaimTask: assert status != 0"),
  ("internal/app/coroutines/claimTask.go", "ClaimTask: assert status != t_api.StatusCreated || t != nil"),
  ("internal/app/coroutines/completePromise.go", "CompletePromise: assert completion.Store != nil"),
  ("internal/app/coroutines/completePromise.go", "CompletePromise: assert result.RowsReturned == 0 || result.RowsReturned == 1"),
  ("internal/app/coroutines/completePromise.go", "CompletePromise: assert res != nil"),
  ("internal/app/coroutines/completePromise.go", "completePromise: assert completion.Store != nil"),
  ("internal/app/coroutines/completePromise.go", "completePromise: assert len(completion.Store.Results) == len(commands)"),
  ("internal/app/coroutines/completePromise.go", "completePromise: assert completion.Store.Results[0].UpdatePromise != nil"),
  ("internal/app/coroutines/completePromise.go", "completePromise: assert completion.Store.Results[0].UpdatePromise.RowsAffected == 0 || completion.Store.Results[0].UpdatePromise.RowsAffected == 1"),
  ("internal/app/coroutines/completePromise.go", "completePromise: assert completion.Store.Results[1].CompleteTasks != nil"),
  ("internal/app/coroutines/completePromise.go", "completePromise: assert completion.Store.Results[2].CreateTasks != nil"),
  ("internal/app/coroutines/completePromise.go", "completePromise: assert completion.Store.Results[3].DeleteCallbacks != nil"),
  ("internal/app/coroutines/completePromise.go", "completePromise: assert completion.Store.Results[2].CreateTasks.RowsAffected == completion.Store.Results[3].DeleteCallbacks.RowsAffected"),
  ("internal/app/coroutines/completePromise.go", "alreadyCompletedStatus: panic"),
  ("internal/app/coroutines/completeTask.go", "CompleteTask: assert completion.Store != nil"),
  ("internal/app/coroutines/completeTask.go", "CompleteTask: assert result.RowsReturned == 0 || result.RowsReturned == 1"),
  ("internal/app/coroutines/completeTask.go", "CompleteTask: assert completion.Store != nil"),
  ("internal/app/coroutines/completeTask.go", "CompleteTask: assert result.RowsAffected == 0 || result.RowsAffected == 1"),
  ("internal/app/coroutines/completeTask.go", "CompleteTask: assert status != 0"),
  ("internal/app/coroutines/completeTask.go", "CompleteTask: assert status != t_api.StatusCreated || t != nil"),
  ("internal/app/coroutines/createCallback.go", "CreateCallback: assert completion.Store != nil"),
  ("internal/app/coroutines/createCallback.go", "CreateCallback: assert len(completion.Store.Results) == 1"),
  ("internal/app/coroutines/createCallback.go", "CreateCallback: assert result != nil"),
  ("internal/app/coroutines/createCallback.go", "CreateCallback: assert result.RowsReturned == 0 || result.RowsReturned == 1"),
  ("internal/app/coroutines/createCallback.go", "CreateCallback: assert completion.Store != nil"),
  ("internal/app/coroutines/createCallback.go", "CreateCallback: assert len(completion.Store.Results) == 1"),
  ("internal/app/coroutines/createCallback.go", "CreateCallback: assert result != nil"),
  ("internal/app/coroutines/createCallback.go", "CreateCallback: assert result.RowsAffected == 0 || result.RowsAffected == 1"),
  ("internal/app/coroutines/createCallback.go", "CreateCallback: assert completion.Store != nil"),
  ("internal/app/coroutines/createCallback.go", "CreateCallback: assert len(completion.Store.Results) == 1"),
  ("internal/app/coroutines/createCallback.go", "CreateCallback: assert result != nil"),
  ("internal/app/coroutines/createCallback.go", "CreateCallback: assert result.RowsReturned == 1"),
  ("internal/app/coroutines/createCallback.go", "CreateCallback: assert res != nil"),
  ("internal/app/coroutines/createPromise.go", "CreatePromise: assert r.Kind == t_api.CreatePromise"),
  ("internal/app/coroutines/createPromise.go", "CreatePromiseAndTask: assert r.Kind == t_api.CreatePromiseAndTask"),
  ("internal/app/coroutines/createPromise.go", "CreatePromiseAndTask: assert r.CreatePromiseAndTask.Promise.Id == r.CreatePromiseAndTask.Task.PromiseId"),
  ("internal/app/coroutines/createPromise.go", "CreatePromiseAndTask: assert r.CreatePromiseAndTask.Promise.Timeout == r.CreatePromiseAndTask.Task.Timeout"),
  ("internal/app/coroutines/createPromise.go", "createPromiseAndTask: assert r.Kind == t_api.CreatePromise || r.Kind == t_api.CreatePromiseAndTask"),
  ("internal/app/coroutines/createPromise.go", "createPromiseAndTask: assert completion.Store != nil"),
  ("internal/app/coroutines/createPromise.go", "createPromiseAndTask: assert result.RowsReturned == 0 || result.RowsReturned == 1"),
  ("internal/app/coroutines/createPromise.go", "createPromiseAndTask: assert promiseRowsAffected == completion.Store.Results[0].CreatePromiseAndTask.TaskRowsAffected"),
  ("internal/app/coroutines/createPromise.go", "createPromiseAndTask: assert taskCmd != nil"),
  ("internal/app/coroutines/createPromise.go", "createPromiseAndTask: assert completion.Store.Results[0].Kind == t_aio.CreatePromiseAndTask"),
  ("internal/app/coroutines/createPromise.go", "createPromise: assert completion.Router.Recv != nil"),
  ("internal/app/coroutines/createPromise.go", "createPromise: assert completion.Store != nil"),
  ("internal/app/coroutines/createPromise.go", "createPromise: assert len(completion.Store.Results) == len(commands)"),
  ("internal/app/coroutines/createPromise.go", "createPromise: assert promiseAndTaskResult.PromiseRowsAffected == 0 || promiseAndTaskResult.PromiseRowsAffected == 1"),
  ("internal/app/coroutines/createPromise.go", "createPromise: assert promiseAndTaskResult.TaskRowsAffected == promiseAndTaskResult.PromiseRowsAffected"),
  ("internal/app/coroutines/createPromise.go", "createPromise: assert createPromiseResult.RowsAffected == 0 || createPromiseResult.RowsAffected == 1"),
  ("internal/app/coroutines/createPromise.go", "createPromise: panic"),
  ("internal/app/coroutines/createSchedule.go", "CreateSchedule: assert completion.Store != nil"),
  ("internal/app/coroutines/createSchedule.go", "CreateSchedule: assert result.RowsReturned == 0 || result.RowsReturned == 1"),
  ("internal/app/coroutines/createSchedule.go", "CreateSchedule: assert completion.Store != nil"),
  ("internal/app/coroutines/createSchedule.go", "CreateSchedule: assert result.RowsAffected == 0 || result.RowsAffected == 1"),
  ("internal/app/coroutines/createSchedule.go", "CreateSchedule: assert res != nil"),
  ("internal/app/coroutines/createSubscription.go", "CreateSubscription: assert r.Kind == t_api.CreateSubscription"),
  ("internal/app/coroutines/createSubscription.go", "CreateSubscription: assert completion.Store != nil"),
  ("internal/app/coroutines/createSubscription.go", "CreateSubscription: assert len(completion.Store.Results) == 1"),
  ("internal/app/coroutines/createSubscription.go", "CreateSubscription: assert result != nil"),
  ("internal/app/coroutines/createSubscription.go", "CreateSubscription: assert result.RowsReturned == 0 || result.RowsReturned == 1"),
  ("internal/app/coroutines/createSubscription.go", "CreateSubscription: assert completion.Store != nil"),
  ("internal/app/coroutines/createSubscription.go", "CreateSubscription: assert len(completion.Store.Results) == 1"),
  ("internal/app/coroutines/createSubscription.go", "CreateSubscription: assert result != nil"),
  ("internal/app/coroutines/createSubscription.go", "CreateSubscription: assert result.RowsAffected == 0 || result.RowsAffected == 1"),
  ("internal/app/coroutines/createSubscription.go", "CreateSubscription: assert completion.Store != nil"),
  ("internal/app/coroutines/createSubscription.go", "CreateSubscription: assert len(completion.Store.Results) == 1"),
  ("internal/app/coroutines/createSubscription.go", "CreateSubscription: assert result != nil"),
  ("internal/app/coroutines/createSubscription.go", "CreateSubscription: assert result.RowsReturned == 1"),
  ("internal/app/coroutines/createSubscription.go", "CreateSubscription: assert res != nil"),
  ("internal/app/coroutines/deleteSchedule.go", "DeleteSchedule: assert completion.Store != nil"),
  ("internal/app/coroutines/deleteSchedule.go", "DeleteSchedule: assert result.RowsAffected == 0 || result.RowsAffected == 1"),
  ("internal/app/coroutines/enqueueTasks.go", "EnqueueTasks: assert tags != nil"),
  ("internal/app/coroutines/enqueueTasks.go", "EnqueueTasks: assert tasksCompletion.Store != nil"),
  ("internal/app/coroutines/enqueueTasks.go", "EnqueueTasks: assert len(tasksCompletion.Store.Results) == 1"),
  ("internal/app/coroutines/enqueueTasks.go", "EnqueueTasks: assert tasksResult != nil"),
  ("internal/app/coroutines/enqueueTasks.go", "EnqueueTasks: assert len(promiseCmds) > 0"),
  ("internal/app/coroutines/enqueueTasks.go", "EnqueueTasks: assert promisesCompletion.Store != nil"),
  ("internal/app/coroutines/enqueueTasks.go", "EnqueueTasks: assert len(promisesCompletion.Store.Results) == len(promiseCmds)"),
  ("internal/app/coroutines/enqueueTasks.go", "EnqueueTasks: assert promisesResults[i].ReadPromise != nil"),
  ("internal/app/coroutines/heartbeatLocks.go", "HeartbeatLocks: assert completion.Store != nil"),
  ("internal/app/coroutines/heartbeatTasks.go", "HeartbeatTasks: assert completion.Store != nil"),
  ("internal/app/coroutines/heartbeatTasks.go", "HeartbeatTasks: assert result != nil"),
  ("internal/app/coroutines/readPromise.go", "ReadPromise: assert completion.Store != nil"),
  ("internal/app/coroutines/readPromise.go", "ReadPromise: assert result.RowsReturned == 0 || result.RowsReturned == 1"),
  ("internal/app/coroutines/readPromise.go", "ReadPromise: assert res != nil"),
  ("internal/app/coroutines/readSchedule.go", "ReadSchedule: assert completion.Store != nil"),
  ("internal/app/coroutines/readSchedule.go", "ReadSchedule: assert result.RowsReturned == 0 || result.RowsReturned == 1"),
  ("internal/app/coroutines/readSchedule.go", "ReadSchedule: assert res != nil"),
  ("internal/app/coroutines/releaseLock.go", "ReleaseLock: assert completion.Store != nil"),
  ("internal/app/coroutines/releaseLock.go", "ReleaseLock: assert result.RowsAffected == 0 || result.RowsAffected == 1"),
  ("internal/app/coroutines/releaseLock.go", "ReleaseLock: assert res != nil"),
  ("internal/app/coroutines/schedulePromises.go", "SchedulePromises: assert tags != nil"),
  ("internal/app/coroutines/schedulePromises.go", "SchedulePromises: assert completion.Store != nil"),
  ("internal/app/coroutines/schedulePromises.go", "SchedulePromises: assert len(completion.Store.Results) == 1"),
  ("internal/app/coroutines/schedulePromises.go", "SchedulePromises: assert result != nil"),
  ("internal/app/coroutines/schedulePromises.go", "SchedulePromises: assert r.NextRunTime <= c.Time()"),
  ("internal/app/coroutines/searchPromises.go", "SearchPromises: assert r.SearchPromises.Id != \"\""),
  ("internal/app/coroutines/searchPromises.go", "SearchPromises: assert r.SearchPromises.Limit > 0"),
  ("internal/app/coroutines/searchPromises.go", "SearchPromises: assert completion.Store != nil"),
  ("internal/app/coroutines/searchPromises.go", "SearchPromises: assert len(completion.Store.Results) == 1"),
  ("internal/app/coroutines/searchSchedules.go", "SearchSchedules: assert r.SearchSchedules.Id != \"\""),
  ("internal/app/coroutines/searchSchedules.go", "SearchSchedules: assert r.SearchSchedules.Limit > 0"),
  ("internal/app/coroutines/searchSchedules.go", "SearchSchedules: assert completion.Store != nil"),
  ("internal/app/coroutines/timeoutLocks.go", "TimeoutLocks: assert tags != nil"),
  ("internal/app/coroutines/timeoutLocks.go", "TimeoutLocks: assert completion.Store != nil"),
  ("internal/app/coroutines/timeoutLocks.go", "TimeoutLocks: assert len(completion.Store.Results) == 1"),
  ("internal/app/coroutines/timeoutPromises.go", "TimeoutPromises: assert tags != nil"),
  ("internal/app/coroutines/timeoutPromises.go", "TimeoutPromises: assert completion.Store != nil"),
  ("internal/app/coroutines/timeoutPromises.go", "TimeoutPromises: assert len(completion.Store.Results) == 1"),
  ("internal/app/coroutines/timeoutPromises.go", "TimeoutPromises: assert result != nil"),
  ("internal/app/coroutines/timeoutPromises.go", "TimeoutPromises: assert r.State == promise.Pending"),
  ("internal/app/coroutines/timeoutPromises.go", "TimeoutPromises: assert r.Timeout <= c.Time()"),
  ("internal/app/coroutines/timeoutTasks.go", "TimeoutTasks: assert tags != nil"),
  ("internal/app/coroutines/timeoutTasks.go", "TimeoutTasks: assert completion.Store != nil"),
  ("internal/app/coroutines/timeoutTasks.go", "TimeoutTasks: assert len(completion.Store.Results) == 1"),
  ("internal/app/coroutines/timeoutTasks.go", "TimeoutTasks: assert result != nil"),
  ("internal/app/coroutines/timeoutTasks.go", "TimeoutTasks: assert t.State.In((task.Init | task.Enqueued) | task.Claimed)"),
  ("internal/app/plugins/poll/poll.go", "add: assert conn.ch != nil"),
  ("internal/app/plugins/poll/poll.go", "rmv: assert conn.ch != nil"),
  ("internal/app/plugins/poll/poll.go", "Disconnect: panic"),
  ("internal/app/subsystems/aio/router/router.go", "Process: assert len(r.workers) > 0"),
  ("internal/app/subsystems/aio/router/router.go", "Process: assert sqe.Submission != nil"),
  ("internal/app/subsystems/aio/router/router.go", "Process: assert sqe.Submission.Router != nil"),
  ("internal/app/subsystems/aio/router/router.go", "Process: assert sqe.Submission.Router.Promise != nil"),
  ("internal/app/subsystems/aio/router/router.go", "TagSource: assert p.Tags != nil"),
  ("internal/app/subsystems/aio/sender/sender.go", "Process: assert sqe.Submission.Sender != nil"),
  ("internal/app/subsystems/aio/sender/sender.go", "Process: assert sqe.Submission.Sender.Task != nil"),
  ("internal/app/subsystems/aio/sender/sender.go", "Process: assert (logicalRecv != nil) != (physicalRecv != nil)"),
  ("internal/app/subsystems/aio/sender/sender.go", "Process: assert sqe.Submission.Sender.Promise != nil"),
  ("internal/app/subsystems/api/api.go", "Process: panic"),
  ("internal/app/subsystems/api/error.go", "ServerError: assert errors.As(err, &error)"),
  ("internal/app/subsystems/api/grpc/callback.go", "CreateCallback: assert res.CreateCallback != nil"),
  ("internal/app/subsystems/api/grpc/grpc.go", "code: panic"),
  ("internal/app/subsystems/api/grpc/lock.go", "AcquireLock: assert res.AcquireLock != nil"),
  ("internal/app/subsystems/api/grpc/lock.go", "ReleaseLock: assert res.ReleaseLock != nil"),
  ("internal/app/subsystems/api/grpc/lock.go", "HeartbeatLocks: assert res.HeartbeatLocks != nil"),
  ("internal/app/subsystems/api/grpc/promise.go", "ReadPromise: assert res.ReadPromise != nil"),
  ("internal/app/subsystems/api/grpc/promise.go", "SearchPromises: assert res.SearchPromises != nil"),
  ("internal/app/subsystems/api/grpc/promise.go", "CreatePromise: assert res.CreatePromise != nil"),
  ("internal/app/subsystems/api/grpc/promise.go", "CreatePromiseAndTask: assert res.CreatePromiseAndTask != nil"),
  ("internal/app/subsystems/api/grpc/promise.go", "ResolvePromise: assert res.CompletePromise != nil"),
  ("internal/app/subsystems/api/grpc/promise.go", "RejectPromise: assert res.CompletePromise != nil"),
  ("internal/app/subsystems/api/grpc/promise.go", "CancelPromise: assert res.CompletePromise != nil"),
  ("internal/app/subsystems/api/grpc/promise.go", "protoState: panic"),
  ("internal/app/subsystems/api/grpc/schedule.go", "ReadSchedule: assert res.ReadSchedule != nil"),
  ("internal/app/subsystems/api/grpc/schedule.go", "SearchSchedules: assert res.SearchSchedules != nil"),
  ("internal/app/subsystems/api/grpc/schedule.go", "CreateSchedule: assert res.CreateSchedule != nil"),
  ("internal/app/subsystems/api/grpc/schedule.go", "DeleteSchedule: assert res.DeleteSchedule != nil"),
  ("internal/app/subsystems/api/grpc/subscription.go", "CreateSubscription: assert res.CreateSubscription != nil"),
  ("internal/app/subsystems/api/grpc/task.go", "ClaimTask: assert res.ClaimTask != nil"),
  ("internal/app/subsystems/api/grpc/task.go", "ClaimTask: assert res.ClaimTask.Status != t_api.StatusCreated || (res.ClaimTask.Task != nil && res.ClaimTask.Task.Mesg != nil)"),
  ("internal/app/subsystems/api/grpc/task.go", "CompleteTask: assert res.CompleteTask != nil"),
  ("internal/app/subsystems/api/grpc/task.go", "HeartbeatTasks: assert res.HeartbeatTasks != nil"),
  ("internal/app/subsystems/api/http/callback.go", "createCallback: assert res.CreateCallback != nil"),
  ("internal/app/subsystems/api/http/lock.go", "acquireLock: assert res.AcquireLock != nil"),
  ("internal/app/subsystems/api/http/lock.go", "releaseLock: assert res.ReleaseLock != nil"),
  ("internal/app/subsystems/api/http/lock.go", "heartbeatLocks: assert res.HeartbeatLocks != nil"),
  ("internal/app/subsystems/api/http/promise.go", "readPromise: assert res.ReadPromise != nil"),
  ("internal/app/subsystems/api/http/promise.go", "searchPromises: assert res.SearchPromises != nil"),
  ("internal/app/subsystems/api/http/promise.go", "createPromise: assert res.CreatePromise != nil"),
  ("internal/app/subsystems/api/http/promise.go", "createPromiseAndTask: assert res.CreatePromiseAndTask != nil"),
  ("internal/app/subsystems/api/http/promise.go", "completePromise: assert res.CompletePromise != nil"),
  ("internal/app/subsystems/api/http/schedule.go", "readSchedule: assert res.ReadSchedule != nil"),
  ("internal/app/subsystems/api/http/schedule.go", "searchSchedules: assert res.SearchSchedules != nil"),
  ("internal/app/subsystems/api/http/schedule.go", "createSchedule: assert res.CreateSchedule != nil"),
  ("internal/app/subsystems/api/http/schedule.go", "deleteSchedule: assert res.DeleteSchedule != nil"),
  ("internal/app/subsystems/api/http/subscription.go", "createSubscription: assert res.CreateSubscription != nil"),
  ("internal/app/subsystems/api/http/task.go", "claimTask: assert res.ClaimTask != nil"),
  ("internal/app/subsystems/api/http/task.go", "claimTask: assert res.ClaimTask.Status != t_api.StatusCreated || (res.ClaimTask.Task != nil && res.ClaimTask.Task.Mesg != nil)"),
  ("internal/app/subsystems/api/http/task.go", "completeTask: assert res.CompleteTask != nil"),
  ("internal/app/subsystems/api/http/task.go", "heartbeatTasks: assert res.HeartbeatTasks != nil"),
  ("internal/app/subsystems/api/http/util.go", "extractId: assert len(id) > 0 && id[0] == '/'"),
  ("internal/kernel/system/system.go", "Tick: assert s.config.SubmissionBatchSize > 0"),
  ("internal/kernel/system/system.go", "Tick: assert s.config.CompletionBatchSize > 0"),
  ("internal/kernel/system/system.go", "Tick: assert i < s.config.CompletionBatchSize"),
  ("internal/kernel/system/system.go", "Tick: assert i < s.config.SubmissionBatchSize"),
  ("internal/kernel/system/system.go", "Tick: assert ok"),
  ("internal/kernel/system/system.go", "AddOnRequest: assert req.Tags != nil"),
  ("internal/kernel/system/system.go", "AddOnRequest: assert req.Tags[\"id\"] != \"\""),
  ("internal/kernel/system/system.go", "coroutineMetrics: assert tags != nil"),
  ("internal/kernel/t_api/api.go", "String: panic"),
  ("internal/kernel/t_api/response.go", "Status: panic"),
  ("internal/kernel/t_api/status.go", "String: panic")
]


theorem sites_pin : Gen.sites = expectedSites := by rfl

/-- how each coroutine awaits the children it spawned.  `Thread.resume?` (Model/System.lean) is written against exactly
    this: the one request coroutine with several children (searchPromises.go) returns on its first failed child, in
    order, while later children may still be in flight; the background coroutines log the error and await every child. -/
def expectedAwaitLoops : List (String × String × String) := [
  ("internal/app/coroutines/enqueueTasks.go", "EnqueueTasks", "awaits-all"),
  ("internal/app/coroutines/schedulePromises.go", "SchedulePromises", "awaits-all"),
  ("internal/app/coroutines/searchPromises.go", "SearchPromises", "returns-on-error"),
  ("internal/app/coroutines/timeoutPromises.go", "TimeoutPromises", "awaits-all")
]

theorem awaitLoops_pin : Gen.awaitLoops = expectedAwaitLoops := by rfl

/-- what every coroutine function submits, in source order (submission kinds `Store` / `Router` / `Sender` / `Echo` and the
    command kinds inside the transactions).  The hand-written models in Model/Coroutines.lean were written against exactly
    these lists — e.g. `CompleteTask`: a `ReadTask` transaction, then an `UpdateTask` transaction (`Coro.completeTask`);
    `completePromise`: ONE transaction `[UpdatePromise, CompleteTasks, CreateTasks, DeleteCallbacks]` (`completeTx`);
    `createPromise`: a router submission, then `CreatePromise` or `CreatePromiseAndTask` in one store transaction
    (`createPromiseChild` / `childStore`).  A coroutine that starts submitting something else changes the regenerated list
    and this pin stops checking, whether or not the harness generators reach the new path. -/
def expectedCoroutineCmds : List (String × String × String) := [
  ("internal/app/coroutines/acquireLock.go", "AcquireLock", "Store AcquireLock"),
  ("internal/app/coroutines/claimTask.go", "ClaimTask", "Store ReadTask Store UpdateTask ReadPromise ReadPromise Store"),
  ("internal/app/coroutines/completePromise.go", "CompletePromise", "Store ReadPromise"),
  ("internal/app/coroutines/completePromise.go", "completePromise", "UpdatePromise CompleteTasks CreateTasks DeleteCallbacks Store"),
  ("internal/app/coroutines/completeTask.go", "CompleteTask", "Store ReadTask Store UpdateTask"),
  ("internal/app/coroutines/createCallback.go", "CreateCallback", "Store ReadPromise Store CreateCallback Store ReadPromise"),
  ("internal/app/coroutines/createPromise.go", "createPromiseAndTask", "Store ReadPromise"),
  ("internal/app/coroutines/createPromise.go", "createPromise", "Router CreatePromise CreatePromiseAndTask Store"),
  ("internal/app/coroutines/createSchedule.go", "CreateSchedule", "Store ReadSchedule Store CreateSchedule"),
  ("internal/app/coroutines/createSubscription.go", "CreateSubscription", "Store ReadPromise Store CreateCallback Store ReadPromise"),
  ("internal/app/coroutines/deleteSchedule.go", "DeleteSchedule", "Store DeleteSchedule"),
  ("internal/app/coroutines/echo.go", "Echo", "Echo"),
  ("internal/app/coroutines/enqueueTasks.go", "EnqueueTasks", "Store ReadEnqueueableTasks ReadPromise Store Sender UpdateTask UpdateTask UpdateTask UpdateTask Store"),
  ("internal/app/coroutines/heartbeatLocks.go", "HeartbeatLocks", "Store HeartbeatLocks"),
  ("internal/app/coroutines/heartbeatTasks.go", "HeartbeatTasks", "Store HeartbeatTasks"),
  ("internal/app/coroutines/readPromise.go", "ReadPromise", "Store ReadPromise"),
  ("internal/app/coroutines/readSchedule.go", "ReadSchedule", "Store ReadSchedule"),
  ("internal/app/coroutines/releaseLock.go", "ReleaseLock", "Store ReleaseLock"),
  ("internal/app/coroutines/schedulePromises.go", "SchedulePromises", "Store ReadSchedules UpdateSchedule"),
  ("internal/app/coroutines/searchPromises.go", "SearchPromises", "Store SearchPromises"),
  ("internal/app/coroutines/searchSchedules.go", "SearchSchedules", "Store SearchSchedules"),
  ("internal/app/coroutines/timeoutLocks.go", "TimeoutLocks", "Store TimeoutLocks"),
  ("internal/app/coroutines/timeoutPromises.go", "TimeoutPromises", "Store ReadPromises"),
  ("internal/app/coroutines/timeoutTasks.go", "TimeoutTasks", "Store ReadTasks UpdateTask UpdateTask Store")
]

theorem coroutineCmds_pin : Gen.coroutineCmds = expectedCoroutineCmds := by rfl

/-- the state guards of the task updates (C07): a claim expects `init` or `enqueued`, a completion `claimed`, the four hand-off
    outcomes `init`, and the lease sweep the state it read (`tree_timeoutTasks`, Proofs/Walk.lean, is where that matters) -/
def expectedTaskGuards : List (String × String × String) := [
  ("internal/app/coroutines/claimTask.go", "ClaimTask", "[]task.State{task.Init, task.Enqueued}"),
  ("internal/app/coroutines/completeTask.go", "CompleteTask", "[]task.State{task.Claimed}"),
  ("internal/app/coroutines/enqueueTasks.go", "EnqueueTasks", "[]task.State{task.Init}"),
  ("internal/app/coroutines/enqueueTasks.go", "EnqueueTasks", "[]task.State{task.Init}"),
  ("internal/app/coroutines/enqueueTasks.go", "EnqueueTasks", "[]task.State{task.Init}"),
  ("internal/app/coroutines/enqueueTasks.go", "EnqueueTasks", "[]task.State{task.Init}"),
  ("internal/app/coroutines/timeoutTasks.go", "TimeoutTasks", "[]task.State{t.State}"),
  ("internal/app/coroutines/timeoutTasks.go", "TimeoutTasks", "[]task.State{t.State}")
]

theorem taskGuards_pin : Gen.taskGuards = expectedTaskGuards := by rfl

/-- the kernel's tick, as `Sys.tick` (Model/System.lean) models it step by step: (1) dequeue up to `CompletionBatchSize`
    completions and hand each to its coroutine (`deliverAll`), (2) offer every background coroutine whose signal timeout has
    passed and whose previous instance has finished to the scheduler, recording `last = t` whether or not it was admitted
    (`startBg`), (3) rotate the registry by one when a due coroutine was refused (`bgRefused` / `rotate1`, the fix of F17),
    (4) dequeue API submissions and start their coroutines, answering "scheduler queue full" for those that do not fit
    (`startReqs`), (5) run until blocked (`runAll`), (6) flush the submissions (`pending ++ disp`). -/
def expectedTickCalls : List String := ["util.Assert", "util.Assert", "s.aio.DequeueCQE", "util.Assert", "cqe.Callback", "s.api.Done", "int64", "s.config.SignalTimeout.Milliseconds", "bg.promise.Completed", "fmt.Sprintf", "gocoro.Add", "bg.coroutine", "s.coroutineMetrics", "slog.Warn", "len", "append", "s.api.DequeueSQE", "util.Assert", "util.Assert", "fmt.Sprintf", "gocoro.Add", "coroutine", "s.coroutineMetrics", "slog.Warn", "sqe.Callback", "t_api.NewError", "s.scheduler.RunUntilBlocked", "s.aio.Flush"]

theorem tickCalls_pin : Gen.tickCalls = expectedTickCalls := by rfl

def expectedTickConds : List String := [
  "!s.api.Done() && (t-bg.last) >= int64(s.config.SignalTimeout.Milliseconds()) && (bg.promise == nil || bg.promise.Completed())",
  "ok",
  "full && len(s.background) > 1",
  "ok"
]

theorem tickConds_pin : Gen.tickConds = expectedTickConds := by rfl

/-- the queues around the kernel, as `Sys.step` models them: `EnqueueSQE` answers "shutting down" once shutdown was requested,
    else enqueues when there is room, else answers "queue full" (`Choice.submit`); `Done` = shutdown requested and queue empty
    (`apiDone && apiQ.isEmpty`); `DequeueSQE` / `DequeueCQE` take the buffered entry first, then what the channel holds
    (`dequeueCount`, `cq.take`); `Dispatch` hands a submission to its subsystem and `Flush` flushes every subsystem; `Loop` reads the wall clock afresh
    before every `Tick`, whichever signal woke it (C02: a request is handled at an instant between its submission and its response). -/
def expectedQueueShapes : List (String × String × String × String) := [
  ("internal/api/api.go", "EnqueueSQE", "util.Assert util.Assert sqe.Submission.Kind.String util.Assert util.Assert errors.As error.Code res.Status sqe.Submission.Kind.String strconv.Itoa int sqe.Submission.Kind.String callback sqe.Callback t_api.NewError sqe.Callback t_api.NewError", "err != nil ;; a.done ;; select: a.sq <- sqe ;; select-default"),
  ("internal/api/api.go", "DequeueSQE", "append len append", "a.buffer != nil ;; select: sqe, ok := <-a.sq ;; !ok ;; select-default"),
  ("internal/api/api.go", "EnqueueCQE", "util.Assert util.Assert cqe.Callback", ""),
  ("internal/api/api.go", "Shutdown", "", ""),
  ("internal/api/api.go", "Done", "len", ""),
  ("internal/kernel/system/system.go", "Loop", "close s.Tick time.Now().UnixMilli time.Now s.Done s.aio.Shutdown s.scheduler.Shutdown make s.api.Signal s.aio.Signal time.After close", "s.Done() ;; select: <-apiSignal ;; select: <-aioSignal ;; select: <-s.shortCircuit ;; select: <-time.After(s.config.SignalTimeout)"),
  ("internal/kernel/system/system.go", "Done", "s.api.Done s.scheduler.Size", ""),
  ("internal/kernel/system/system.go", "Shutdown", "s.api.Shutdown close", ""),
  ("internal/aio/aio.go", "EnqueueCQE", "util.Assert", ""),
  ("internal/aio/aio.go", "DequeueCQE", "append len append", "a.buffer != nil ;; select: cqe, ok := <-a.cq ;; !ok ;; select-default"),
  ("internal/aio/aio.go", "Dispatch", "util.Assert util.Assert a.EnqueueSQE", ""),
  ("internal/aio/aio.go", "Flush", "util.OrderedRange subsystem.Flush", "")
]

theorem queueShapes_pin : Gen.queueShapes = expectedQueueShapes := by rfl

/-- how the stores open their database.  The sqlite store opens the configured path as it is: the journal mode is sqlite's
    default (a rollback journal on disk), which is what "an acknowledged write survives a kill, a write in flight is all or
    nothing" (C06) rests on below the model; a data source that sets a journal mode, a synchronous level or the like changes
    that and has to be looked at. -/
def expectedStoreOpen : List (String × String × String) := [
  ("internal/app/subsystems/aio/store/sqlite/sqlite.go", "\"sqlite3\"", "config.Path"),
  ("internal/app/subsystems/aio/store/postgres/postgres.go", "\"postgres\"", "dbUrl.String()")
]

theorem storeOpen_pin : Gen.storeOpen = expectedStoreOpen := by rfl

end Resonate
