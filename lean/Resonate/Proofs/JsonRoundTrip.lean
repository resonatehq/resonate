/-
  Proofs/JsonRoundTrip.lean — `decMap (encMap m) = some m` for every list of string pairs over all
  Unicode scalar values (C20: header and tag maps survive persistence exactly).
-/
import Resonate.Model.Json
namespace Resonate.Json

theorem hexVal_hexDigit : ∀ d < 16, hexVal (hexDigit d) = some d := by decide

theorem hexVal4_hex4 (n : Nat) (h : n < 65536) :
    hexVal4 (hexDigit (n / 4096 % 16)) (hexDigit (n / 256 % 16)) (hexDigit (n / 16 % 16)) (hexDigit (n % 16)) = some n := by
  have m (k : Nat) : k % 16 < 16 := Nat.mod_lt _ (by decide)
  simp only [hexVal4, hexVal_hexDigit _ (m _), bind, Option.bind, pure]
  congr 1
  omega

theorem needsU_lt (c : Char) (h : needsU c = true) : c.toNat < 65536 := by
  simp only [needsU, Bool.or_eq_true, decide_eq_true_eq, beq_iff_eq] at h
  rcases h with ((((h | h) | h) | h) | h) | h
  · omega
  · subst h; decide
  · subst h; decide
  · subst h; decide
  · omega
  · omega

/-! ### what `encChar` writes -/

/-- the seven two-character escapes: (character, letter written after the backslash) -/
def shortEsc : List (Char × Char) :=
  [('"', '"'), ('\\', '\\'), ('\n', 'n'), ('\r', 'r'), ('\t', 't'), (Char.ofNat 8, 'b'), (Char.ofNat 12, 'f')]

theorem encChar_cases (c : Char) :
    (∃ e, (c, e) ∈ shortEsc ∧ encChar c = ['\\', e]) ∨
    (c.toNat < 65536 ∧ encChar c = '\\' :: 'u' :: hex4 c.toNat) ∨
    (c ≠ '"' ∧ c ≠ '\\' ∧ ¬ c.toNat < 32 ∧ encChar c = [c]) := by
  by_cases h1 : c = '"'; · subst h1; exact .inl ⟨_, by decide, rfl⟩
  by_cases h2 : c = '\\'; · subst h2; exact .inl ⟨_, by decide, rfl⟩
  by_cases h3 : c = '\n'; · subst h3; exact .inl ⟨_, by decide, rfl⟩
  by_cases h4 : c = '\r'; · subst h4; exact .inl ⟨_, by decide, rfl⟩
  by_cases h5 : c = '\t'; · subst h5; exact .inl ⟨_, by decide, rfl⟩
  by_cases h6 : c.toNat = 8
  · have : c = Char.ofNat 8 := by rw [← h6, Char.ofNat_toNat]
    subst this; exact .inl ⟨_, by decide, rfl⟩
  by_cases h7 : c.toNat = 12
  · have : c = Char.ofNat 12 := by rw [← h7, Char.ofNat_toNat]
    subst this; exact .inl ⟨_, by decide, rfl⟩
  have h : encChar c = if needsU c then '\\' :: 'u' :: hex4 c.toNat else [c] := by
    simp only [encChar, beq_iff_eq, h1, h2, h3, h4, h5, h6, h7, if_false]
  by_cases hu : needsU c = true
  · rw [h, if_pos hu]; exact .inr (.inl ⟨needsU_lt c hu, rfl⟩)
  · rw [h, if_neg hu]
    exact .inr (.inr ⟨h1, h2, fun hlt => hu (by simp [needsU, hlt]), rfl⟩)

theorem encBody_cons (c : Char) (cs : List Char) : encBody (c :: cs) = encChar c ++ encBody cs := rfl

/-! ### what `decBody` reads: one lemma per input shape -/

/-- the decoder's table of one-letter escapes (the local `dec` of `decBody`, named) -/
def unesc (e : Char) : Option Char :=
  if e == '"' then some '"' else if e == '\\' then some '\\' else if e == '/' then some '/'
  else if e == 'n' then some '\n' else if e == 'r' then some '\r' else if e == 't' then some '\t'
  else if e == 'b' then some (Char.ofNat 8) else if e == 'f' then some (Char.ofNat 12) else none

theorem unesc_shortEsc {c e : Char} (h : (c, e) ∈ shortEsc) : unesc e = some c :=
  (by decide : ∀ p ∈ shortEsc, unesc p.2 = some p.1) (c, e) h

/-! `decBody.eq_2 … eq_5` are the equations of its clauses `'"' :: rest`, `'\\' :: 'u' :: a :: b :: c :: d :: rest`,
    `'\\' :: e :: rest`, `c :: rest`, in that order; the later ones carry side conditions saying that no earlier clause
    matches (here: `e` is not `u`; `c` is neither quote nor backslash).  `strRest` (Proofs/ResolveLemmas.lean) has the same clauses. -/

theorem decBody_esc (c e : Char) (rest : List Char) (hc : unesc e = some c) :
    decBody ('\\' :: e :: rest) = (decBody rest).map fun p => (c :: p.1, p.2) := by
  have he : e ≠ 'u' := by intro h; rw [h] at hc; cases hc
  unfold unesc at hc
  rw [decBody.eq_4 e rest (fun _ _ _ _ _ h _ => he h), hc]
  cases decBody rest <;> rfl

theorem decBody_hex4 (n : Nat) (h : n < 65536) (rest : List Char) :
    decBody ('\\' :: 'u' :: hex4 n ++ rest) = (decBody rest).map fun p => (Char.ofNat n :: p.1, p.2) := by
  show decBody ('\\' :: 'u' :: _ :: _ :: _ :: _ :: rest) = _
  rw [decBody.eq_3, hexVal4_hex4 n h]
  cases decBody rest <;> rfl

theorem decBody_plain (c : Char) (rest : List Char) (hq : c ≠ '"') (hb : c ≠ '\\') :
    decBody (c :: rest) = (decBody rest).map fun p => (c :: p.1, p.2) := by
  rw [decBody.eq_5 c rest hq (fun _ _ _ _ _ h _ => hb h) (fun _ _ h _ => hb h)]
  cases decBody rest <;> rfl

theorem decBody_encChar (c : Char) (rest : List Char) :
    decBody (encChar c ++ rest) = (decBody rest).map fun p => (c :: p.1, p.2) := by
  rcases encChar_cases c with ⟨e, he, h⟩ | ⟨hlt, h⟩ | ⟨hq, hb, -, h⟩ <;> rw [h]
  · exact decBody_esc c e rest (unesc_shortEsc he)
  · rw [decBody_hex4 _ hlt, Char.ofNat_toNat]
  · exact decBody_plain c rest hq hb

theorem decBody_encBody (cs rest : List Char) : decBody (encBody cs ++ '"' :: rest) = some (cs, rest) := by
  induction cs with
  | nil => exact decBody.eq_2 rest
  | cons c cs ih => rw [encBody_cons, List.append_assoc, decBody_encChar, ih]; rfl

theorem decStr_encStr (s rest : List Char) : decStr (encStr s ++ rest) = some (s, rest) := by
  simp only [encStr, List.append_assoc]
  exact decBody_encBody s rest

theorem decPairs_encPairs (m : List (List Char × List Char)) (hne : m ≠ []) (fuel : Nat) (rest : List Char) (hf : m.length ≤ fuel) :
    decPairs fuel (encPairs m ++ '}' :: rest) = some (m, rest) := by
  fun_induction encPairs m generalizing fuel with
  | case1 => exact absurd rfl hne
  | case2 k v =>
    cases fuel with
    | zero => cases hf
    | succ fuel => simp only [decPairs, List.append_assoc, List.cons_append, decStr_encStr]
  | case3 k v ps hps ih =>
    cases fuel with
    | zero => cases hf
    | succ fuel =>
      simp only [decPairs, List.append_assoc, List.cons_append, decStr_encStr, ih hps fuel (Nat.le_of_succ_le_succ hf)]

theorem length_le_encPairs (m : List (List Char × List Char)) : m.length ≤ (encPairs m).length := by
  fun_induction encPairs m with
  | case1 => exact Nat.le_refl _
  | case2 k v => simp only [encStr, List.cons_append, List.length_cons, List.length_append, List.length_nil]; omega
  | case3 k v ps _ ih => simp only [List.length_cons, List.length_append] at ih ⊢; omega

theorem decMap_encMap (m : List (List Char × List Char)) : decMap (encMap m) = some m := by
  cases m with
  | nil => rfl
  | cons kv m =>
    have hlen := length_le_encPairs (kv :: m)
    rw [List.length_cons] at hlen
    -- so the object is not `{}`, and the decoder's fuel (the length of the text) is enough for the pairs
    have hne : encPairs (kv :: m) ++ ['}'] = ['}'] → False := fun h => by
      have := congrArg List.length h
      rw [List.length_append] at this
      omega
    rw [encMap, List.cons_append, decMap.eq_2 _ hne,
      decPairs_encPairs (kv :: m) (List.cons_ne_nil _ _) _ [] (by rw [List.length_append, List.length_cons]; omega)]

end Resonate.Json
